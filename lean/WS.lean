import WS.Props.C01
import WS.Props.C02
import WS.Props.C03
import WS.Props.C04
import WS.Props.C05
import WS.Props.C06
import WS.Props.C07
import WS.Props.C08
import WS.Props.C09
import WS.Props.C10
import WS.Props.C11
import WS.Props.C12
import WS.Props.C13
import WS.Props.C14
import WS.Props.C15
import WS.Props.C16
import WS.Props.C17
import WS.Props.C18
import WS.Props.C19
import WS.Props.C20
import WS.Props.C01Stored
import WS.Props.C10Timeout
import WS.Props.CIRTie
import WS.Props.CIRTrace
import WS.Props.Guards
import WS.Props.G2.ClientRequest
import WS.Props.G2.Origin
import WS.Props.G2.ServerResponse
import WS.Props.G2.Deflate
import WS.Props.G2.ClosePayload
import WS.Props.G2.Control
import WS.Props.G2.FrameWrite
import WS.Props.G2.FrameRead
import WS.Props.G2.Limit
import WS.Props.G2.MsgRead
import WS.Props.G2.MsgWriter
import WS.Props.G2.Ping
import WS.Props.G2.NetConn
import WS.Props.G2.WsJson
import WS.Props.G2.Tokens
import WS.Props.G2.CloseSeq
import WS.Props.G2.Select
import WS.Props.G2.MsgReset
import WS.Props.G2.FrameWriteAll
import WS.Props.G2.ControlAll
import WS.Props.G2.TableFacts
import WS.Audit
/-
  The root of the library: every property module, so that `lake build` checks the whole development.  A companion
  module (`C05Mu`, `C07Window`, `C13Req`, `C15Ping`, `Handshake`, `FrameCodec`, …) is imported by its property's module
  or else listed here (`C01Stored`, `C10Timeout`).
  (`WS/GuardsCex.lean` and `WS/G2Cex.lean` are scripts with a `main` of their own, run with `lean --run`; the driver's root
  is `Driver.lean`.)
-/
