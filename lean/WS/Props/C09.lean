import WS.Props.C10
import WS.Props.C20
/-
  C09 — Close, CloseNow and blocked calls end in bounded time whatever the peer does.
  What a theorem can carry is *guardedness*: every step of Close / CloseNow that can block has an
  escape that does not depend on the peer.  Turning guardedness into seconds needs the runtime
  ("closing the transport unblocks pending I/O", timers fire): that part is measured by the harness.
-/
namespace WS.Props.C09
open WS.CIR WS.Gen WS.Props.CIRCert

/-- CloseNow never touches the transport and never arms a timeout: nothing on its paths waits for
the peer (decidable fact about the skeleton). -/
theorem closenow_no_transport_io :
    (reachFrom ConnCIR.prog ConnCIR.entryCloseNow).all (fun n =>
      match ConnCIR.prog.at n with
      | .io _ _ => false
      | .wr _ _ _ => false
      | .arm _ _ _ _ => false
      | _ => true) = true := by
  unfold Prog.at
  simp only [reachFrom_eq, Table.getD_eq_get]
  decide +kernel

/-- the only unconditional waits (forceLock) in the whole skeleton are the four locks taken by
`Conn.close` (closeMu, then writeFrameMu / msgWriter.writeMu / readMu after the transport was closed). -/
theorem forcelocks_only_in_close :
    (List.range ConnCIR.prog.code.length).all (fun n =>
      match ConnCIR.prog.at n with
      | .forceLock m _ => m == 4 || m == 0 || m == 1 || m == 3
      | _ => true) = true := by
  unfold Prog.at
  simp only [Table.getD_eq_get]
  decide +kernel

/-- every transport read or write — in particular those of Close's close handshake and of the
payload discard loop — is performed with the caller's (5 s) context in the timeout slot: the timeout
goroutine bounds it. (This is `C10.blocked_call_ctx_armed`; it holds on Close's paths too.) -/
theorem close_io_guarded (g : G) (hr : Reach ConnCIR.prog g) (t n : Nat) (hn : g.pcs[t]? = some n) :
    (∀ ok err, ConnCIR.prog.at n = .io ok err → g.slot 0 = some t) ∧
    (∀ k ok err, ConnCIR.prog.at n = .wr k ok err → g.slot 1 = some t) :=
  WS.Props.C10.blocked_call_ctx_armed g hr t n hn

/-- every other blocking step has an escape edge by construction of the instruction set: `lock`
gives up when its context ends or the connection closes, `await` when its timer fires. -/
theorem lock_and_await_can_give_up (t m ok err : Nat) (g : G) :
    TStep t (.lock m ok err) g (g.move t err) ∧ ∀ ch to, TStep t (.await ch ok to) g (g.move t to) :=
  ⟨TStep.lockErr m ok err g, fun ch to => TStep.awaitTimeout ch ok to g⟩

/-- the CloseRead goroutine never waits for itself (the defect behind the 20 s delay of the
CloseRead context). -/
theorem closeread_no_self_join :
    (reachFrom ConnCIR.prog ConnCIR.closeReadGoroutine).all (fun n =>
      match ConnCIR.prog.at n with
      | .await ch _ _ => ch != Specs.chCloseReadDone
      | _ => true) = true :=
  WS.Props.C20.closeread_goroutine_never_awaits_itself

end WS.Props.C09
