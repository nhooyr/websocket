import WS.Props.C13Req
/-
  C13 — Dial accepts only a valid server response (decision logic).
-/
namespace WS.Props.C13
open WS WS.Model

/-- **Dial returns a connection iff** the status is 101, Connection and Upgrade name upgrade and
websocket, the accept value matches the key that was sent, the subprotocol was asked for (or is
absent), and the extensions are acceptable; the negotiated options are those of `verifyServerExtensions`. -/
theorem dial_accepts_iff (requested : List Str) (copts : Option Copts) (key : Str) (status : Nat) (h : Hdr)
    (r : Option Copts) :
    verifyServerResponse requested copts key status h = some r ↔
      status = 101 ∧
      headerContainsToken h (s "Connection") (s "Upgrade") = true ∧
      headerContainsToken h (s "Upgrade") (s "WebSocket") = true ∧
      h.get (s "Sec-Websocket-Accept") = secWebSocketAccept key ∧
      verifySubprotocol requested h = true ∧
      verifyServerExtensions copts h = .ok r := by
  fun_cases verifyServerResponse requested copts key status h <;> simp_all

/-- the subprotocol in the response must be one the client asked for (case-insensitively), or absent. -/
theorem subprotocol_ok_iff (requested : List Str) (h : Hdr) :
    verifySubprotocol requested h = true ↔
      h.get (s "Sec-Websocket-Protocol") = [] ∨ ∃ sp ∈ requested, equalFold sp (h.get (s "Sec-Websocket-Protocol")) = true := by
  simp [verifySubprotocol]

/-- an accept value computed for another key is rejected (unless SHA-1/base64 collide on the two keys). -/
theorem wrong_accept_rejected (requested : List Str) (copts : Option Copts) (key other : Str) (h : Hdr)
    (ha : h.get (s "Sec-Websocket-Accept") = secWebSocketAccept other)
    (hne : secWebSocketAccept other ≠ secWebSocketAccept key) :
    verifyServerResponse requested copts key 101 h = none := by
  unfold verifyServerResponse
  simp [ha, hne]

/-- any status other than 101 is rejected whatever the headers say. -/
theorem non101_rejected (requested : List Str) (copts : Option Copts) (key : Str) (status : Nat) (h : Hdr)
    (hs : status ≠ 101) : verifyServerResponse requested copts key status h = none := by
  unfold verifyServerResponse
  simp [hs]

end WS.Props.C13
