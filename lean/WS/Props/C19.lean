import WS.Model.WsJson
import WS.Props.C01
import WS.Proofs.WsJson
/-
  C19 — wsjson moves one JSON value per text message and rejects invalid JSON (glue over the
  connection models; `encoding/json` itself is external and enters as a codec with a round-trip law,
  for which the Lean JSON codec of WS/Model/WsJson.lean is a proved instance).
-/
namespace WS.Props.C19
open WS WS.Model WS.Spec WS.Model.WsJson WS.Props.FrameCodec

/-- wsjson.Write is exactly one text message whose payload is the encoding of the value. -/
theorem write_is_one_text_message {V : Type} (c : Codec V) (v : V) :
    opEvents (writeOp c v) = [.msg opText (c.enc v)] ∧ opWF (writeOp c v) ∧ isClose (writeOp c v) = false ∧ ctlOK (writeOp c v) := by
  refine ⟨?_, ?_, ?_, ?_⟩
  · simp [writeOp, opEvents]
  · exact ⟨Or.inl rfl, fun _ => ⟨c.enc v, rfl⟩⟩
  · rfl
  · exact True.intro

/-- **values written on one side are read as themselves on the other**: for every list of values,
every role, negotiated compression pair, threshold, key stream and compressor output satisfying the
codec law, the peer's reader over the emitted bytes delivers exactly one text message per value, and
`wsjson.Read` (any codec with `dec (enc v) = some v`) returns the values in order. -/
theorem values_roundtrip {V : Type} (c : Codec V) (hlaw : ∀ v, c.dec (c.enc v) = some v)
    (inf : Inflate) (wcfg : WCfg) (rtakeover : Bool) (vs : List V) (keys : List Bytes)
    (hk : KeysOK keys (runWriter wcfg (vs.map (writeOp c)) keys).length)
    (hlen : ∀ f ∈ runWriter wcfg (vs.map (writeOp c)) keys, f.h.len < 2 ^ 63)
    (hcodec : CodecOK inf wcfg rtakeover [] (vs.map (writeOp c))) :
    readStream inf { client := !wcfg.client, flate := wcfg.flate, takeover := rtakeover, limit := -1 } []
        (writerBytes wcfg (vs.map (writeOp c)) keys) =
      vs.map (fun v => Ev.msg opText (c.enc v)) ++ [.fail .io] := by
  have hmem : ∀ op ∈ vs.map (writeOp c), opWF op ∧ isClose op = false ∧ ctlOK op := by
    intro op hop
    obtain ⟨v, _, rfl⟩ := List.mem_map.1 hop
    exact (write_is_one_text_message c v).2
  have hev : ((vs.map (writeOp c)).map opEvents).flatten = vs.map (fun v => Ev.msg opText (c.enc v)) := by
    simp [List.map_eq_flatMap (f := fun v => Ev.msg opText (c.enc v)), List.flatMap_def, Function.comp_def,
      writeOp, opEvents]
  rw [← hev]
  exact WS.Props.C01.roundtrip inf wcfg rtakeover (vs.map (writeOp c)) keys
    (fun op hop => (hmem op hop).1) (fun op hop => (hmem op hop).2.1) (fun op hop => (hmem op hop).2.2)
    hk hlen hcodec

/-- reading one value consumes exactly one message and returns the value that was written. -/
theorem readOne_ok {V : Type} (c : Codec V) (hlaw : ∀ v, c.dec (c.enc v) = some v) (v : V) (typ : Nat) (rest : List Ev) :
    ∃ r, readOne c (.msg typ (c.enc v) :: rest) = (r, none, rest) ∧ (match r with | .ok v' => v' = v | _ => False) := by
  refine ⟨.ok v, ?_, rfl⟩
  simp [readOne, hlaw]

/-- a message that is not valid JSON for the target yields an error and a Close frame with status 1007. -/
theorem readOne_invalid {V : Type} (c : Codec V) (typ : Nat) (data : Bytes) (rest : List Ev) (h : c.dec data = none) :
    ∃ r, readOne c (.msg typ data :: rest) = (r, some 1007, rest) ∧ (match r with | .invalid => True | _ => False) := by
  refine ⟨.invalid, ?_, True.intro⟩
  simp [readOne, h]

/-! ### the Lean JSON codec satisfies the round-trip law (so the law is not vacuous)

`strOK`, `JOK`, `JsOK`, `KVsOK` (the codec's domain) are defined in `WS/Props/C19Defs.lean`, in this
namespace. -/

/-- integers print and parse back. -/
theorem int_roundtrip (n : Int) (rest : List Char) (hr : ∀ c ∈ rest.head?, ¬ ('0' ≤ c ∧ c ≤ '9')) :
    parseJ (encInt n ++ rest).length.succ (encInt n ++ rest) = some (.num n, rest) :=
  WS.Proofs.WsJson.parseJ_int n rest hr _

/-- strings escape and parse back. -/
theorem str_roundtrip (s : List Char) (hs : strOK s) (rest : List Char) :
    parseStrBody ((encStr s).tail ++ rest).length.succ ((encStr s).tail ++ rest) [] = some (s, rest) := by
  have e : (encStr s).tail ++ rest = s.flatMap escChar ++ '"' :: rest := by simp [WS.Proofs.WsJson.encStr_eq]
  rw [e]
  exact WS.Proofs.WsJson.parseStr_full s hs rest

/-- **every JSON value of the fragment (unbounded nesting) decodes to itself.** -/
theorem json_roundtrip (v : J) (hv : JOK v) : decJ (encJ v) = some v :=
  WS.Proofs.WsJson.json_roundtrip v hv

end WS.Props.C19
