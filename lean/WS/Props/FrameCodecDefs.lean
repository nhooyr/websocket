import WS.Model.Frame
/-
  What the frame-codec theorems (WS/Props/FrameCodec.lean, C02, C03, C04) are stated with: well-formed headers and
  frames, the encoding of a frame sequence, the tail a cut leaves.
-/
namespace WS.Props.FrameCodec
open WS WS.Model

/-- headers that can be put on the wire. -/
def Header.WF (h : Header) : Prop :=
  h.opcode < 16 ∧ h.len < 2 ^ 63 ∧ (h.masked = true → h.key.length = 4) ∧ (h.masked = false → h.key = [])

def Frame.WF (f : Frame) : Prop := Header.WF f.h ∧ f.payload.length = f.h.len

def encodeAll (fs : List Frame) : Bytes := (fs.map encodeFrame).flatten

/-- the tail left by cutting frame `f` after `m` of its bytes (0 < m < its encoded length). -/
def cutTail (f : Frame) (m : Nat) : Tail :=
  if m < (encodeHeader f.h).length then .shortHeader
  else .shortPayload f.h (f.payload.take (m - (encodeHeader f.h).length))

end WS.Props.FrameCodec
