import WS.Proofs.Handshake
/-
  C11 — Accept upgrades only valid WebSocket requests and answers them correctly (decision logic).
-/
namespace WS.Props.C11
open WS WS.Model WS.Spec

/-- RFC 6455 §4.2.1: the conditions under which a request is upgraded. -/
def Upgradable (r : Req) : Prop :=
  (r.protoMajor > 1 ∨ (r.protoMajor = 1 ∧ r.protoMinor ≥ 1)) ∧
  headerContainsToken r.hdr (s "Connection") (s "Upgrade") = true ∧
  headerContainsToken r.hdr (s "Upgrade") (s "websocket") = true ∧
  r.method = s "GET" ∧
  r.hdr.get (s "Sec-Websocket-Version") = s "13" ∧
  ∃ k v, r.hdr.values (s "Sec-Websocket-Key") = [k] ∧ b64Decode (trimSpace k) = some v ∧ v.length = 16

/-- **the request is accepted iff it satisfies every condition**, in whatever order the code tests them. -/
theorem accept_iff (r : Req) : verifyClientRequest r = 0 ↔ Upgradable r := by
  unfold Upgradable
  -- `omega` serves the HTTP-version test alone (the first 426 branch and the accepting one)
  fun_cases verifyClientRequest r <;> simp_all <;> omega

/-- every rejection carries an HTTP error status. -/
theorem reject_status (r : Req) (h : verifyClientRequest r ≠ 0) : verifyClientRequest r ≥ 400 := by
  revert h
  fun_cases verifyClientRequest r <;> simp_all

/-- a header "contains the token" iff some comma-separated element of some header line, trimmed,
equals it case-insensitively — across several header lines and several tokens per line. -/
theorem token_iff (h : Hdr) (key tok : Str) :
    headerContainsToken h key tok = true ↔
      ∃ v ∈ h.values key, ∃ t ∈ splitOnChar ',' (trimSpace v), equalFold (trimSpace t) tok = true := by
  simp [headerContainsToken, headerTokens]

/-- the selected subprotocol is the first server-preferred protocol that the client offered (in the
client's spelling), or none. -/
theorem selectSubprotocol_spec (r : Req) (sps : List Str) :
    selectSubprotocol r sps =
      ((sps.findSome? (fun sp => (headerTokens r.hdr (s "Sec-Websocket-Protocol")).find? (fun cp => equalFold sp cp))).getD []) := by
  unfold selectSubprotocol
  fun_induction selectSubprotocol.go (headerTokens r.hdr (s "Sec-Websocket-Protocol")) sps <;> simp_all

/-- base64 (RFC 4648) decodes what it encodes, for every byte string. -/
theorem b64_roundtrip (b : Bytes) : b64Decode (b64Encode b) = some b := by
  unfold b64Decode
  rw [List.filter_eq_self.2 (Proofs.Handshake.encode_no_crlf b)]
  exact Proofs.Handshake.quads_roundtrip b

/-- the encoding of n bytes has 4·⌈n/3⌉ characters; a 16-byte key has 24 and a SHA-1 digest 28. -/
theorem b64_length (b : Bytes) : (b64Encode b).length = 4 * ((b.length + 2) / 3) := by
  induction b using b64Encode.induct with
  | case1 => simp [b64Encode]
  | case2 a => simp [b64Encode]
  | case3 a b => simp [b64Encode]
  | case4 a b c rest ih => simp [b64Encode, ih]; omega

theorem sha1_length (m : Bytes) : (sha1 m).length = 20 := by
  simp [sha1, Proofs.Handshake.u32be_length]

theorem accept_value_length (key : Str) : (secWebSocketAccept key).length = 28 := by
  simp [secWebSocketAccept, b64_length, sha1_length]

end WS.Props.C11
