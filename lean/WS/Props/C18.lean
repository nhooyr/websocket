import WS.Model.NetConn
import WS.Proofs.NetConn
/-
  C18 — NetConn is a faithful byte stream with correct EOF, type check and deadlines (model of netconn.go).
-/
namespace WS.Props.C18
open WS WS.Model.NetConn

def AllTyped (t : Nat) (ms : List Msg) : Prop := ∀ m ∈ ms, m.typ = t

/-- **byte-stream fidelity**: for every sequence of messages of the right type (any sizes, empty ones
included) and every sequence of read-buffer sizes ≥ 1, the bytes returned are a prefix of the
concatenation of the payloads, in order, nothing lost, nothing duplicated … -/
theorem reads_prefix (t : Nat) (ms : List Msg) (fin : End) (ks : List Nat)
    (ht : AllTyped t ms) (hk : ∀ k ∈ ks, 1 ≤ k) :
    bytesOf (reads ks (init t ms fin)).1 <+: (ms.map (·.data)).flatten :=
  ⟨_, (WS.Proofs.NetConn.reads_inv ks (init t ms fin) ht).symm⟩

/-- … and every read returns at least one byte as long as bytes remain, so enough reads return
everything (no read returns `0, nil`; empty messages are skipped). Each message costs the read loop at
most two iterations (starting it and, if it is empty, skipping it), which is what `readN`'s fuel provides. -/
theorem read_progress (s : State) (k : Nat) (hk : 1 ≤ k) (hf : s.failed = false) (he : s.eofed = false)
    (ht : AllTyped s.msgType s.rest) (hp : pending s ≠ []) :
    ∃ b, (readN s k).1 = .data b ∧ b ≠ [] ∧ b.length ≤ k ∧ pending s = b ++ pending (readN s k).2 := by
  obtain ⟨-, -, h3, h4⟩ := WS.Proofs.NetConn.read_spec k (2 * s.rest.length + 3) s ht
  have : s.cur.isSome.toNat ≤ 1 := Bool.toNat_le _
  obtain ⟨b, hb, hne, hlen⟩ := h4 hk hf he hp (by simp only [WS.Proofs.NetConn.need]; omega)
  exact ⟨b, hb, hne, hlen, by simpa [readN, hb, bytesOf] using h3⟩

/-- once the stream is exhausted, the reads have returned the whole stream. -/
theorem reads_all (t : Nat) (ms : List Msg) (fin : End) (ks : List Nat)
    (ht : AllTyped t ms) (hk : ∀ k ∈ ks, 1 ≤ k)
    (hdone : pending (reads ks (init t ms fin)).2 = []) :
    bytesOf (reads ks (init t ms fin)).1 = (ms.map (·.data)).flatten := by
  have h := WS.Proofs.NetConn.reads_inv ks (init t ms fin) ht
  rw [hdone, List.append_nil] at h
  exact h.symm

/-- a peer's normal (1000) or going-away (1001) close reads as io.EOF, and keeps doing so. -/
theorem close_reads_eof (t : Nat) (code : Int) (hc : code = 1000 ∨ code = 1001) (k1 k2 : Nat) :
    let s0 := init t [] (.closeErr code)
    (readN s0 k1).1 = .eof ∧ (readN (readN s0 k1).2 k2).1 = .eof := by
  simp [readN, Model.NetConn.read, init, hc]

/-- any other close code, or any other failure, surfaces as an error. -/
theorem other_close_is_error (t : Nat) (code : Int) (hc : code ≠ 1000 ∧ code ≠ 1001) (k : Nat) :
    (readN (init t [] (.closeErr code)) k).1 = .err ∧ (readN (init t [] .otherErr) k).1 = .err := by
  simp [readN, Model.NetConn.read, init, hc.1, hc.2]

/-- a message of the wrong type fails the read and a Close frame with status 1003 is sent. -/
theorem wrong_type_fails (t : Nat) (m : Msg) (ms : List Msg) (fin : End) (k : Nat) (hm : m.typ ≠ t) :
    (readN (init t (m :: ms) fin) k).1 = .err ∧ (readN (init t (m :: ms) fin) k).2.close1003 = true := by
  simp [readN, Model.NetConn.read, init, hm]

/-- **idle deadline**: a timer that fires while no call is active only sets the expired flag: calls
fail with a deadline error until the deadline is set again, and the connection was not touched. -/
theorem idle_deadline (s : DL) (hi : s.active = false) :
    callAllowed (dstep s .fire) = false ∧ (dstep s .fire).closed = s.closed ∧
    callAllowed (dstep (dstep s .fire) .set) = true := by
  simp [dstep, dfire, callAllowed, hi]

/-- **active deadline**: a timer that fires during a call cancels that call's context, which closes
the connection (C10); the expired flag is not set. -/
theorem active_deadline (s : DL) (ha : s.active = true) :
    (dstep s .fire).closed = true ∧ (dstep s .fire).expired = s.expired := by
  simp [dstep, dfire, ha]

/-- a deadline that is already in the past when it is set **during** an active call is a deadline that
fires during that call: the call's context is cancelled (the connection is closed) … -/
theorem past_deadline_during_call (s : DL) (ha : s.active = true) :
    (dstep s .setPast).closed = true := by
  simp [dstep, dfire, ha]

/-- … while set with no call active it only makes subsequent calls fail until the next reset. -/
theorem past_deadline_idle (s : DL) (hi : s.active = false) :
    callAllowed (dstep s .setPast) = false ∧ (dstep s .setPast).closed = s.closed ∧
    callAllowed (dstep (dstep s .setPast) .set) = true := by
  simp [dstep, dfire, callAllowed, hi]

def isBlocked : PEv → Bool
  | .blockedPast _ => true
  | _ => false

/-- no call is active between the steps of a program (calls are steps). -/
def Idle (s : DL2) : Prop := s.r.active = false ∧ s.w.active = false

/-- **the connection stays usable**: whatever deadlines (past, future, zero) are set while no call is
active, in any order and on either side, and whatever calls are made between them, the connection is
never closed by the adapter. -/
theorem idle_deadlines_never_close (es : List PEv) (s : DL2) (hi : Idle s) (hc : s.closed = false)
    (hb : ∀ e ∈ es, isBlocked e = false) : (prun es s).1.closed = false := by
  induction es generalizing s with
  | nil => exact hc
  | cons e es ih =>
    obtain ⟨hr, hw⟩ := hi
    simp only [DL2.closed, Bool.or_eq_false_iff] at hc
    have h : Idle (pstep s e).1 ∧ (pstep s e).1.closed = false := by
      cases e with
      | call sd => simp [pstep, Idle, DL2.closed, hr, hw, hc]
      | blockedPast sd => cases hb _ (List.mem_cons_self ..)
      | _ sd => cases sd <;> simp [pstep, DL2.put, DL2.get, dstep, dfire, Idle, DL2.closed, hr, hw, hc]
    exact ih _ h.1 h.2 fun e he => hb e (by simp [he])

/-- **a past deadline during a blocked call fails it and closes the connection**, for every state a
program can reach in which that call was allowed to start. -/
theorem blocked_past_closes (s : DL2) (sd : Side) (hi : Idle s) (hok : callRes (s.get sd) = .ok) :
    (pstep s (.blockedPast sd)).2 = some .fail ∧ (pstep s (.blockedPast sd)).1.closed = true := by
  cases sd <;> simp [pstep, hok, DL2.put, DL2.closed, dstep, dfire]

theorem dstep_closed_mono (d : DL) (e : DEv) (h : d.closed = true) : (dstep d e).closed = true := by
  cases e <;> simp only [dstep, dfire] <;> (try split) <;> simp [h]

/-- on a connection that is closed nothing a program does opens it again, and no call returns ok. -/
theorem pstep_closed (s : DL2) (e : PEv) (hr : s.r.closed = true) (hw : s.w.closed = true) :
    ((pstep s e).1.r.closed = true ∧ (pstep s e).1.w.closed = true) ∧ (pstep s e).2 ≠ some .ok := by
  have hg : ∀ sd, (s.get sd).closed = true := fun sd => by cases sd <;> assumption
  have hput : ∀ sd d, d.closed = true → (s.put sd d).r.closed = true ∧ (s.put sd d).w.closed = true :=
    fun sd d hd => by cases sd <;> simp [DL2.put, hr, hw, hd]
  have hres : ∀ sd, callRes (s.get sd) ≠ .ok := fun sd => by simp only [callRes, hg]; split <;> simp
  cases e with
  | call sd => exact ⟨⟨hr, hw⟩, by simpa [pstep] using hres sd⟩
  | blockedPast sd =>
    simp only [pstep]
    split
    · exact absurd ‹_› (hres sd)
    · exact ⟨hput sd _ (dstep_closed_mono _ _ (hg sd)), by simpa using hres sd⟩
  | _ sd => exact ⟨hput sd _ (dstep_closed_mono _ _ (hg sd)), nofun⟩

/-- once closed, no call of either side succeeds, whatever is done to the deadlines afterwards. -/
theorem closed_calls_never_ok (es : List PEv) (s : DL2) (hr : s.r.closed = true) (hw : s.w.closed = true) :
    ∀ res ∈ (prun es s).2, res ≠ .ok := by
  induction es generalizing s with
  | nil => simp [prun]
  | cons e es ih =>
    obtain ⟨⟨hr', hw'⟩, hres⟩ := pstep_closed s e hr hw
    intro res h
    simp only [prun, List.mem_append, Option.mem_toList] at h
    rcases h with h | h
    · exact fun hk => hres (hk ▸ h)
    · exact ih _ hr' hw' res h

/-- **until the deadline is reset**: after a past deadline set while idle, calls of that side fail with
a deadline error; after the next zero / future deadline of that side they succeed again (the
connection was not touched). -/
theorem reset_restores (s : DL2) (sd : Side) (hi : Idle s) (hc : s.closed = false) :
    let s1 := (pstep s (.setPast sd)).1
    callRes (s1.get sd) = .deadline ∧
    callRes ((pstep s1 (.setZero sd)).1.get sd) = .ok ∧
    callRes ((pstep s1 (.setFuture sd)).1.get sd) = .ok := by
  obtain ⟨hr, hw⟩ := hi
  simp only [DL2.closed, Bool.or_eq_false_iff] at hc
  cases sd <;> simp [pstep, DL2.put, DL2.get, dstep, dfire, callRes, hr, hw, hc.1, hc.2]

/-- the premises are satisfiable and the program semantics is not trivial. -/
example : (prun [.setPast .r, .call .r, .call .w, .setZero .r, .call .r, .blockedPast .w, .call .r] DL2.init).2
    = [.deadline, .ok, .ok, .fail, .fail] := by decide

end WS.Props.C18
