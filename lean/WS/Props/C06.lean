import WS.Proofs.IntPredFar
import WS.Model.Close
import WS.Model.Reader
import WS.Gen.IntFns
import WS.Gen.Facts
import WS.Props.CIRCert.Pass
import WS.Proofs.Close
import WS.Proofs.Reader
/-
  C06 — Close handshake carries code and reason both ways: the payload part on the sequential models, and at the
  end ("closed for good") what the concurrent skeleton guarantees of calls that start after the close.
  `Gen.validWireCloseCode` is regenerated from close.go on every run.
-/
namespace WS.Props.C06
open WS WS.Model
open WS.Proofs.Close (closePayload_length parse_closePayload closeBytesErr_eq_some closeBytesErr_eq_none)

/-- the status codes that may appear in a Close frame, written from RFC 6455 §7.4 and the IANA
registry: 1000–1014 except 1004, 1005, 1006; and 3000–4999. -/
def Sendable (code : Int) : Prop :=
  (1000 ≤ code ∧ code ≤ 1014 ∧ code ≠ 1004 ∧ code ≠ 1005 ∧ code ≠ 1006) ∨ (3000 ≤ code ∧ code ≤ 4999)

/-- over **all** integers the model's validWireCloseCode is exactly the RFC set. -/
theorem validWire_iff (code : Int) : validWireCloseCode code = true ↔ Sendable code :=
  WS.Proofs.Close.validWire_arith code

/-- the model's validWireCloseCode is itself a condition of the integer-predicate DSL. -/
def sendableCond : ICond :=
  .or (.and (.ge 1000) (.and (.le 1014) (.and (.ne 1004) (.and (.ne 1005) (.ne 1006))))) (.and (.ge 3000) (.le 4999))

theorem validWire_eq_cond (code : Int) : validWireCloseCode code = sendableCond.eval code := by
  rw [Bool.eq_iff_iff, WS.Proofs.Close.validWire_arith]
  simp [sendableCond, ICond.eval]

/-- so the model depends on the code only through comparisons with these constants. -/
theorem validWire_agree {x y : Int} (h : Guard.Agree sendableCond.consts x y) :
    validWireCloseCode x = validWireCloseCode y := by
  rw [validWire_eq_cond, validWire_eq_cond]
  exact sendableCond.eval_agree h

/-- per-run obligation: the function regenerated from close.go and the model agree on a representative of every way an
integer can compare with the constants of either (kernel evaluation). -/
theorem gen_validWire_reps :
    ∀ r ∈ Guard.reps (WS.Gen.validWireCloseCode.consts ++ sendableCond.consts),
      WS.Gen.validWireCloseCode.eval r = some (validWireCloseCode r) := by
  decide +kernel

/-- per-run obligation: the function regenerated from close.go equals the model on **every** integer — whatever
shape it has: both depend on the code only through comparisons with their constants (`IntPred.eval_agree`,
`validWire_agree`), and every integer compares with them like one of the representatives. -/
theorem gen_validWire (code : Int) :
    WS.Gen.validWireCloseCode.eval code = some (validWireCloseCode code) := by
  obtain ⟨r, hr, h⟩ := Guard.exists_rep code (WS.Gen.validWireCloseCode.consts ++ sendableCond.consts)
  rw [IntPred.eval_agree _ h.left, validWire_agree h.right]
  exact gen_validWire_reps r hr

/-- every constant of the function regenerated from close.go lies in [0, 5000]. -/
theorem gen_validWire_window : WS.Gen.validWireCloseCode.within 0 5000 = true := by decide

/-- in particular on the window [-1, 5001] the regenerated function and the model agree. -/
theorem gen_validWire_on_window :
    allIn (fun n => decide (WS.Gen.validWireCloseCode.eval ((n : Int) - 1) = some (validWireCloseCode ((n : Int) - 1)))) 16 0 5003 = true :=
  allIn_of_forall (fun _ => decide_eq_true (gen_validWire _)) ..

/-- per-run obligation: the constants the models use are the ones in the source. -/
theorem facts :
    WS.Gen.Facts.c_maxControlPayload = 125 ∧ WS.Gen.Facts.c_maxCloseReason = 123 ∧
    WS.Gen.Facts.c_StatusNoStatusRcvd = 1005 ∧ WS.Gen.Facts.c_StatusInternalError = 1011 ∧
    WS.Gen.Facts.c_StatusProtocolError = 1002 ∧ WS.Gen.Facts.c_StatusMessageTooBig = 1009 ∧
    WS.Gen.Facts.c_StatusNormalClosure = 1000 ∧ WS.Gen.Facts.c_StatusGoingAway = 1001 ∧
    WS.Gen.Facts.c_StatusUnsupportedData = 1003 ∧ WS.Gen.Facts.c_StatusInvalidFramePayloadData = 1007 ∧
    WS.Gen.Facts.c_StatusPolicyViolation = 1008 ∧
    WS.Gen.Facts.c_opClose = 8 ∧ WS.Gen.Facts.c_opPing = 9 ∧ WS.Gen.Facts.c_opPong = 10 ∧
    WS.Gen.Facts.c_opContinuation = 0 ∧ WS.Gen.Facts.c_opText = 1 ∧ WS.Gen.Facts.c_opBinary = 2 := by
  decide

/-- a sendable code with a reason of at most 123 bytes is marshalled and parses back to itself. -/
theorem closeBytes_parse (code : Int) (reason : Bytes) (hc : Sendable code) (hr : reason.length ≤ 123) :
    ∃ p, closeBytesErr code reason = some p ∧ p.length = 2 + reason.length ∧ p.length ≤ 125 ∧
      parseClosePayload p = .ok code reason := by
  have hv := (validWire_iff code).2 hc
  have hl := closePayload_length code reason
  exact ⟨_, closeBytesErr_eq_some.2 ⟨hr, hv, rfl⟩, hl, by omega, parse_closePayload code reason hv⟩

/-- anything else is never marshalled (Close returns an error instead of sending it) … -/
theorem closeBytes_rejects (code : Int) (reason : Bytes) (h : ¬ Sendable code ∨ reason.length > 123) :
    closeBytesErr code reason = none := by
  refine closeBytesErr_eq_none.2 (h.symm.imp id fun hn => ?_)
  rwa [← validWire_iff, Bool.not_eq_true] at hn

/-- … except the no-status code 1005, which sends a Close frame with an empty payload. -/
theorem writeClose_1005 (reason : Bytes) : writeClosePayload 1005 reason = some [] := by
  simp [writeClosePayload]

theorem writeClose_sendable (code : Int) (reason : Bytes) (hc : Sendable code) (hr : reason.length ≤ 123) :
    writeClosePayload code reason = some (closePayload code reason) := by
  have h5 : code ≠ 1005 := by unfold Sendable at hc; omega
  rw [writeClosePayload, if_neg h5]
  exact closeBytesErr_eq_some.2 ⟨hr, (validWire_iff code).2 hc, rfl⟩

theorem writeClose_rejects (code : Int) (reason : Bytes) (h5 : code ≠ 1005)
    (h : ¬ Sendable code ∨ reason.length > 123) : writeClosePayload code reason = none := by
  unfold writeClosePayload
  rw [if_neg h5]
  exact closeBytes_rejects code reason h

/-- a received Close payload is accepted exactly when it is empty or starts with a sendable code. -/
theorem parse_ok_iff (p : Bytes) (code : Int) (reason : Bytes) :
    parseClosePayload p = .ok code reason ↔
      (p = [] ∧ code = 1005 ∧ reason = []) ∨
      (∃ b0 b1 : UInt8, p = b0 :: b1 :: reason ∧ code = ((b0.toNat * 256 + b1.toNat : Nat) : Int) ∧ Sendable code) := by
  match p with
  | [] => simp [parseClosePayload, eq_comm]
  | [b] => simp [parseClosePayload]
  | b0 :: b1 :: r =>
    refine ⟨fun h => ?_, ?_⟩
    · simp only [parseClosePayload] at h
      split at h
      · next hv => cases h; exact .inr ⟨b0, b1, rfl, rfl, (validWire_iff _).1 hv⟩
      · cases h
    · rintro (⟨h, -⟩ | ⟨c0, c1, hp, rfl, hs⟩)
      · cases h
      · cases hp
        simp only [parseClosePayload, (validWire_iff _).2 hs, if_true]

/-- the unrestricted round trip is FALSE: `writeClosePayload 1005 r = some []` for every `r`
(Close(1005, reason) sends an empty payload and drops the reason), and `parseClosePayload []`
is `.ok 1005 []`, so for `code = 1005`, `reason = [1]`, `p = []` the first conjunct fails. -/
theorem close_roundtrip_counterexample :
    ¬ (∀ (code : Int) (reason p : Bytes), writeClosePayload code reason = some p →
        parseClosePayload p = .ok code reason ∧
        stopReplies (.peerClose code reason) = [.reply opClose p]) := by
  intro h
  exact absurd (h 1005 [1] [] (by decide)).1 (by decide)

/-- general form: the peer parses the code sent and the reason sent, except that the no-status
code 1005 carries no reason on the wire. -/
theorem close_roundtrip_general (code : Int) (reason p : Bytes) (h : writeClosePayload code reason = some p) :
    parseClosePayload p = .ok code (if code = 1005 then [] else reason) ∧
    stopReplies (.peerClose code reason) = [.reply opClose p] := by
  unfold writeClosePayload at h
  by_cases h5 : code = 1005
  · rw [if_pos h5] at h
    cases h; subst h5
    exact ⟨rfl, rfl⟩
  · rw [if_neg h5] at h
    obtain ⟨-, hv, rfl⟩ := closeBytesErr_eq_some.1 h
    exact ⟨by rw [if_neg h5]; exact parse_closePayload code reason hv, by simp only [stopReplies, if_neg h5]⟩

/-- the round trip with the reason parsed back unchanged, provided the no-status code 1005 is not
given a reason. -/
theorem close_roundtrip_corrected (code : Int) (reason p : Bytes) (h : writeClosePayload code reason = some p)
    (h5 : code = 1005 → reason = []) :
    parseClosePayload p = .ok code reason ∧
    stopReplies (.peerClose code reason) = [.reply opClose p] := by
  have hg := close_roundtrip_general code reason p h
  rwa [show (if code = 1005 then [] else reason) = reason by split <;> simp [*]] at hg

/-- receive side (model of handleControl's close branch): a Close frame with an acceptable header
is echoed and reported as the peer's close with the parsed code and reason. -/
theorem close_frame_reported (inf : Inflate) (cfg : RCfg) (limits : List Int) (st : RState)
    (f : Frame) (rest : List Frame) (tl : Tail) (code : Int) (reason : Bytes)
    (hc : headerCheck cfg f.h = none) (ho : f.h.opcode = opClose)
    (hp : parseClosePayload f.data = .ok code reason) :
    runReader inf cfg limits st (f :: rest) tl = stopIn inf cfg limits st (.peerClose code reason) := by
  rw [WS.Proofs.Reader.runReader_close hc ho, hp]

/-! ### closed for good (concurrent skeleton, every interleaving) -/

open WS.CIR WS.Gen WS.Props.CIRCert in
/-- the successful returns of Reader / Read / Write / Writer / Ping are in scope of the closed-check
analysis, and those of Close / CloseNow of the closing-check analysis. -/
theorem scopes :
    ConnCIR.apiDone.all (fun n => !ConnCIR.passExemptClosed.contains n && ConnCIR.prog.at n == .done true) = true ∧
    ConnCIR.closeDone.all (fun n => !ConnCIR.passExemptClosing.contains n && ConnCIR.prog.at n == .done true) = true := by
  decide +kernel

open WS.CIR WS.Gen WS.Props.CIRCert in
/-- **once the connection is closed every further Read, Write, Writer and Ping fails**: a call that
starts when `closed` is already set never reaches a successful return, in any interleaving with any
other goroutines (its first blocking step re-checks `closed` after acquiring its lock). -/
theorem closed_is_final (g : G) (hr : Reach ConnCIR.prog g) (t n : Nat) (hn : g.pcs[t]? = some n)
    (hb : ∃ fl, g.born[t]? = some fl ∧ fl fCLOSED = true) (hex : ConnCIR.passExemptClosed.contains n = false) :
    ConnCIR.prog.at n ≠ .done true :=
  Join.born_after_never_succeeds fCLOSED _ _ _ pass_closed_ok g hr t n hn hb hex

open WS.CIR WS.Gen WS.Props.CIRCert in
/-- **once a Close or CloseNow has begun, every later Close/CloseNow returns an error** (the code
returns net.ErrClosed on that path): a call that starts when `closing` is already set loses the cas. -/
theorem later_close_fails (g : G) (hr : Reach ConnCIR.prog g) (t n : Nat) (hn : g.pcs[t]? = some n)
    (hb : ∃ fl, g.born[t]? = some fl ∧ fl Specs.fClosing = true) (hex : ConnCIR.passExemptClosing.contains n = false) :
    ConnCIR.prog.at n ≠ .done true :=
  Join.born_after_never_succeeds Specs.fClosing _ _ _ pass_closing_ok g hr t n hn hb hex

end WS.Props.C06
