import WS.Props.C13
import WS.Proofs.Negotiation
/-
  End to end: the library's client and the library's server complete the opening handshake with each
  other for every configuration, and hold the same compression options afterwards
  (C11 x C13 x C14 on the models of both sides).
-/
namespace WS.Props.Handshake
open WS WS.Model WS.Proofs.HandshakeE2E WS.Proofs.Negotiation

/-
  Without a restriction on the caller's headers the end-to-end statement is false (`original_statement_false`):
  Dial only *sets* Sec-Websocket-Protocol when subprotocols are asked for and Sec-Websocket-Extensions when
  compression is on; otherwise whatever the caller put under those keys in DialOptions.HTTPHeader goes out
  unchanged (C13.nothing_unrequested).  The server then negotiates on the caller's values, and the client,
  which asked for nothing, rejects the answer (`original_statement_false_proto`, `original_statement_false_ext`).
  The theorems therefore carry two provisos, each needed only in the case where Dial does not overwrite the
  header: `hcP` and `hcE`.
-/

/-- **compression, end to end**: a server that reads what the client offered (nothing, or the rendering of
any options `c0`) and a client that reads what that server answered (nothing, or the rendering of what it
selected) hold the same options: none unless both enabled compression, else the server's mode plus the flags
offered. -/
theorem extensions_agree {req : Req} {resp : Hdr} {offer : Option Copts} {sm : Nat}
    (hreq : req.hdr.values (s "Sec-Websocket-Extensions") =
      match offer with
      | none => []
      | some c => [coptsString c])
    (hresp : resp.values (s "Sec-Websocket-Extensions") =
      match acceptCopts req sm with
      | some c => [coptsString c]
      | none => []) :
    verifyServerExtensions offer resp = .ok (acceptCopts req sm) := by
  unfold acceptCopts at hresp ⊢
  cases offer with
  | none =>
    have hsel : selectDeflate (websocketExtensions req.hdr) sm = none := by
      simp [exts_absent hreq, selectDeflate, selectDeflate.go]
    rw [hsel] at hresp ⊢
    exact verify_no_extension _ (exts_absent hresp)
  | some c0 =>
    rw [select_rendered hreq sm] at hresp ⊢
    by_cases h0 : sm = 0 <;> simp only [h0] at hresp ⊢
    · exact verify_no_extension _ (exts_absent hresp)
    · rw [verify_rendered c0 hresp]
      cases c0.cnct <;> simp

/-- **library to library, every configuration** (`handshake_completes` below is the case of the library's
three compression modes): whatever the client offers and whatever mode number the server is in, under the
two provisos on the caller's headers. -/
theorem completes (caller : Hdr) (host : Str) (sps serverProtos : List Str) (offer : Option Copts) (sm : Nat)
    (key : Str) (v : Bytes)
    (hk : Spec.b64Decode key = some v) (hv : v.length = 16) (hkt : trimSpace key = key)
    (hsps : ∀ t ∈ sps, plainToken t = true)
    (hcP : sps = [] → caller.values (s "Sec-Websocket-Protocol") = [])
    (hcE : offer = none → caller.values (s "Sec-Websocket-Extensions") = []) :
    let req := dialRequest caller host sps offer key
    verifyClientRequest req = 0 ∧
    verifyServerResponse sps offer key 101 (acceptResponse req serverProtos sm) = some (acceptCopts req sm) := by
  intro req
  obtain ⟨_, _, _, hK⟩ := C13.request_header caller host sps offer key
  obtain ⟨hP, hE⟩ := C13.request_optional caller host sps offer key
  obtain ⟨hRc, hRu, hRa, hRp, hRe⟩ := resp_values req serverProtos sm
  obtain ⟨hc, _, hu⟩ := upgrade_tokens hRc hRu
  refine ⟨C13.dial_request_acceptable caller host sps offer key v (by rwa [hkt]) hv,
    (C13.dial_accepts_iff ..).2 ⟨rfl, hc, hu, ?_, ?_, extensions_agree ?_ hRe⟩⟩
  · rw [get_of_values hRa, get_of_values hK, hkt]
  · -- the request's tokens are `sps`, and the server selects one of them or none
    have htok : headerTokens req.hdr (s "Sec-Websocket-Protocol") = sps :=
      tokens_joinComma hsps (hP.trans (by split; exact hcP (List.isEmpty_iff.1 ‹_›); rfl))
    rw [C13.subprotocol_ok_iff, get_of_values_opt hRp]
    exact (htok ▸ select_mem req serverProtos).imp id fun h => ⟨_, h, equalFold_refl _⟩
  · rw [hE]
    cases offer with
    | none => exact hcE rfl
    | some c => rfl

/-- the provisos cannot be dropped: a subprotocol the client did not ask for is refused by the client. -/
theorem unrequested_subprotocol_rejected (req : Req) (serverProtos : List Str) (offer : Option Copts) (sm : Nat)
    (key : Str) (hsel : selectSubprotocol req serverProtos ≠ []) :
    verifyServerResponse [] offer key 101 (acceptResponse req serverProtos sm) = none := by
  obtain ⟨_, _, _, hRp, _⟩ := resp_values req serverProtos sm
  refine Option.eq_none_iff_forall_ne_some.2 fun r hr => ?_
  have := ((C13.dial_accepts_iff ..).1 hr).2.2.2.2.1
  rw [C13.subprotocol_ok_iff, get_of_values_opt hRp] at this
  simp [hsel] at this

/-- … and so is an extension when the client offered none. -/
theorem unoffered_extension_rejected (req : Req) (sps serverProtos : List Str) (sm : Nat) (key : Str) (c : Copts)
    (hsel : acceptCopts req sm = some c) :
    verifyServerResponse sps none key 101 (acceptResponse req serverProtos sm) = none := by
  obtain ⟨_, _, _, _, hRe⟩ := resp_values req serverProtos sm
  refine Option.eq_none_iff_forall_ne_some.2 fun r hr => ?_
  have := (verify_no_offer ((C13.dial_accepts_iff ..).1 hr).2.2.2.2.2).2
  rw [show selectDeflate _ sm = some c from hsel] at hRe
  simp [exts_rendered hRe] at this

/-- the RFC 6455 sample key. -/
def sampleKey : Str := s "dGhlIHNhbXBsZSBub25jZQ=="

theorem sampleKey_decodes : Spec.b64Decode (trimSpace sampleKey) =
    some [116, 104, 101, 32, 115, 97, 109, 112, 108, 101, 32, 110, 111, 110, 99, 101] := by
  decide +kernel

/-- **counterexample 1** to the unrestricted statement: no subprotocol requested (`sps = []`), the caller's own
header says `Sec-Websocket-Protocol: chat`, the server supports `chat`: the request is upgraded, the server
selects `chat`, the client (which asked for nothing) rejects the response. -/
theorem original_statement_false_proto :
    let req := dialRequest [(s "Sec-Websocket-Protocol", [s "chat"])] (s "h") [] (dialOffer 0) sampleKey
    verifyClientRequest req = 0 ∧
    verifyServerResponse [] (dialOffer 0) sampleKey 101 (acceptResponse req [s "chat"] 0) = none :=
  ⟨C13.dial_request_acceptable _ _ _ _ _ _ sampleKey_decodes rfl,
    unrequested_subprotocol_rejected _ _ _ _ _ (by decide +kernel)⟩

/-- **counterexample 2**: compression off at the client (`cm = 0`), the caller's own header says
`Sec-Websocket-Extensions: permessage-deflate`, the server compresses (`sm = 1`): the server accepts the
"offer" and keeps options, the client rejects the response. -/
theorem original_statement_false_ext :
    let req := dialRequest [(s "Sec-Websocket-Extensions", [s "permessage-deflate"])] (s "h") [] (dialOffer 0) sampleKey
    verifyClientRequest req = 0 ∧
    verifyServerResponse [] (dialOffer 0) sampleKey 101 (acceptResponse req [] 1) = none ∧
    acceptCopts req 1 = some { cnct := false, snct := false } := by
  intro req
  have hsel : acceptCopts req 1 = some { cnct := false, snct := false } := by decide +kernel
  exact ⟨C13.dial_request_acceptable _ _ _ _ _ _ sampleKey_decodes rfl,
    unoffered_extension_rejected _ _ _ _ _ _ hsel, hsel⟩

/-- the unrestricted statement, refuted formally. -/
theorem original_statement_false :
    ¬ (∀ (caller : Hdr) (host : Str) (sps serverProtos : List Str) (cm sm : Nat) (key : Str) (v : Bytes),
        cm ≤ 2 → sm ≤ 2 → Spec.b64Decode key = some v → v.length = 16 → trimSpace key = key →
        (∀ t ∈ sps, plainToken t = true) →
        let req := dialRequest caller host sps (dialOffer cm) key
        verifyClientRequest req = 0 ∧
        verifyServerResponse sps (dialOffer cm) key 101 (acceptResponse req serverProtos sm) = some (acceptCopts req sm)) := by
  intro h
  have hkt : trimSpace sampleKey = sampleKey := by decide +kernel
  have h1 := h [(s "Sec-Websocket-Protocol", [s "chat"])] (s "h") [] [s "chat"] 0 0 sampleKey _
    (by decide) (by decide) (hkt ▸ sampleKey_decodes) rfl hkt (by simp)
  exact absurd (original_statement_false_proto.2 ▸ h1.2) (by simp)

/-- **library to library, every configuration**: whatever headers the caller adds (provided it does not
smuggle in a subprotocol list while asking for none — `hcP` — or an extension offer while compression is
off — `hcE`), whichever plain subprotocol names the client asks for and the server supports (in any order,
any overlap, any case), whichever of the three compression modes either side uses and whatever 16-byte key
is drawn, the request Dial sends is upgraded by Accept, the response Accept writes is accepted by Dial, and
the two ends then hold the same compression options. -/
theorem handshake_completes (caller : Hdr) (host : Str) (sps serverProtos : List Str) (cm sm : Nat) (key : Str) (v : Bytes)
    (hcm : cm ≤ 2) (hsm : sm ≤ 2)
    (hk : Spec.b64Decode key = some v) (hv : v.length = 16) (hkt : trimSpace key = key)
    (hsps : ∀ t ∈ sps, plainToken t = true)
    (hcP : sps = [] → caller.values (s "Sec-Websocket-Protocol") = [])
    (hcE : cm = 0 → caller.values (s "Sec-Websocket-Extensions") = []) :
    let req := dialRequest caller host sps (dialOffer cm) key
    verifyClientRequest req = 0 ∧
    verifyServerResponse sps (dialOffer cm) key 101 (acceptResponse req serverProtos sm) = some (acceptCopts req sm) :=
  completes caller host sps serverProtos (dialOffer cm) sm key v hk hv hkt hsps hcP
    fun h => hcE (by simpa [dialOffer] using h)

/-- the same under the simpler (stronger) assumption that the caller's headers name neither key. -/
theorem handshake_completes' (caller : Hdr) (host : Str) (sps serverProtos : List Str) (cm sm : Nat) (key : Str) (v : Bytes)
    (hcm : cm ≤ 2) (hsm : sm ≤ 2)
    (hk : Spec.b64Decode key = some v) (hv : v.length = 16) (hkt : trimSpace key = key)
    (hsps : ∀ t ∈ sps, plainToken t = true)
    (hcP : caller.values (s "Sec-Websocket-Protocol") = [])
    (hcE : caller.values (s "Sec-Websocket-Extensions") = []) :
    let req := dialRequest caller host sps (dialOffer cm) key
    verifyClientRequest req = 0 ∧
    verifyServerResponse sps (dialOffer cm) key 101 (acceptResponse req serverProtos sm) = some (acceptCopts req sm) :=
  handshake_completes caller host sps serverProtos cm sm key v hcm hsm hk hv hkt hsps (fun _ => hcP) (fun _ => hcE)

end WS.Props.Handshake
