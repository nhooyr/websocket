import WS.Proofs.Handshake
/-
  C12 — Cross-origin requests are refused unless the origin is explicitly authorised (decision logic
  and the pattern matcher; `url.Parse(origin).Host` is an input of the model).
-/
namespace WS.Props.C12
open WS WS.Model

/- `plainChar` is defined (in this namespace) in WS/Props/HandshakeDefs.lean, which the helper lemmas need too. -/

/-- **the decision**: with verification on, a request with an Origin is accepted iff the origin
parses, and its host equals the request host case-insensitively or is matched by the first pattern
that is not a non-match (a malformed pattern reached before any match refuses the request). -/
theorem origin_decision (host origin : Str) (parsed : Option Str) (pats : List Str) :
    authenticateOrigin host origin parsed pats = .ok ↔
      origin = [] ∨
      ∃ h, parsed = some h ∧
        (equalFold host h = true ∨
          ∃ pre p post, pats = pre ++ p :: post ∧
            (∀ q ∈ pre, glob (toLower q) (toLower h) = .no) ∧ glob (toLower p) (toLower h) = .yes) := by
  fun_cases authenticateOrigin host origin parsed pats <;> simp_all [Proofs.Handshake.authenticateOrigin_go_ok_iff]

/-- an Origin that does not parse is refused, whatever the patterns. -/
theorem unparsable_refused (host origin : Str) (pats : List Str) (ho : origin ≠ []) :
    authenticateOrigin host origin none pats = .forbidden := by
  unfold authenticateOrigin
  simp [ho]

/-- without patterns only the request's own host is accepted: look-alikes (suffix, prefix, sub-domain,
other port) are refused because `equalFold` is an equality on folded strings. -/
theorem no_patterns_same_host_only (host origin h : Str) (ho : origin ≠ []) :
    authenticateOrigin host origin (some h) [] = .ok ↔ host.map foldChar = h.map foldChar := by
  unfold authenticateOrigin
  simp [ho, authenticateOrigin.go, equalFold]

/-- no pattern can rescue a host it does not match: if every pattern is a non-match the request is refused. -/
theorem all_patterns_fail_refused (host origin h : Str) (pats : List Str) (ho : origin ≠ [])
    (hne : equalFold host h = false) (hp : ∀ p ∈ pats, glob (toLower p) (toLower h) = .no) :
    authenticateOrigin host origin (some h) pats = .forbidden := by
  simpa [authenticateOrigin, ho, hne] using Proofs.Handshake.authenticateOrigin_go_forbidden h pats hp

/-- a pattern without wildcard characters matches exactly itself (so a literal OriginPattern
authorises exactly one host). -/
theorem literal_pattern_exact (p name : Str) (hp : ∀ c ∈ p, plainChar c = true) :
    glob p name = (if name = p then .yes else .no) := by
  exact Proofs.Handshake.glob_plain p name hp

/-- `*` alone matches every name without a `/`. -/
theorem star_matches_no_slash (name : Str) :
    glob ['*'] name = (if name.contains '/' then .no else .yes) := by
  have h : scanChunk ['*'] = (true, [], []) := by decide
  simp [glob, globMatch, h]

end WS.Props.C12
