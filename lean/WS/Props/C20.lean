import WS.Props.CIRCert.Join
/-
  C20 — No goroutine outlives a closed connection.
-/
namespace WS.Props.C20
open WS.CIR WS.Gen WS.Props.CIRCert

/-- wherever the skeleton says a goroutine has seen a done-channel closed, it is closed. -/
theorem joined_true (g : G) (hr : Reach ConnCIR.prog g) (t n : Nat) (hn : g.pcs[t]? = some n) :
    ∀ ch ∈ Join.joinedAt ConnCIR.joined n, g.sig ch = true :=
  Join.joined_sound _ _ join_ok g hr t n hn

/-- every successful return of Close and CloseNow has seen `timeoutLoopDone` closed (decidable fact
about the certificate) … -/
theorem close_returns_joined :
    ConnCIR.closeDone.all (fun n => (Join.joinedAt ConnCIR.joined n).contains Specs.chTimeoutLoopDone) = true := by
  decide +kernel

/-- … **so when Close or CloseNow has returned successfully the timeout goroutine has exited**:
`timeoutLoopDone` is closed, and it is only closed as the goroutine's last action. -/
theorem closed_then_timeoutloop_exited (g : G) (hr : Reach ConnCIR.prog g) (t n : Nat)
    (hn : g.pcs[t]? = some n) (hc : n ∈ ConnCIR.closeDone) :
    g.sig Specs.chTimeoutLoopDone = true ∧
    ∃ (t' n' : Nat), g.pcs[t']? = some n' ∧ ∃ ok, ConnCIR.prog.at n' = .done ok := by
  have hj := joined_true g hr t n hn Specs.chTimeoutLoopDone
    (by simpa using List.all_eq_true.1 close_returns_joined n hc)
  obtain ⟨t', n', hn', -, hd⟩ := Join.signalled_exited _ _ signal_last_ok.1 g hr hj
  exact ⟨hj, t', n', hn', hd⟩

/-- the CloseRead reader is joined whenever it had been started: on the path of waitGoroutines
where `closeRead` tests true the successful continuation has seen `closeReadDone` closed. -/
theorem closeread_joined_when_started :
    (List.range ConnCIR.prog.code.length).all (fun n =>
      match ConnCIR.prog.at n with
      | .await ch ok _ => ch != Specs.chCloseReadDone || (Join.joinedAt ConnCIR.joined ok).contains Specs.chCloseReadDone
      | _ => true) = true := by
  unfold Prog.at Join.joinedAt
  simp only [Table.getD_eq_get]
  decide +kernel

/-- **no self-join**: the CloseRead goroutine never waits for `closeReadDone` (which only it closes):
no such await is reachable from its entry. -/
theorem closeread_goroutine_never_awaits_itself :
    (reachFrom ConnCIR.prog ConnCIR.closeReadGoroutine).all (fun n =>
      match ConnCIR.prog.at n with
      | .await ch _ _ => ch != Specs.chCloseReadDone
      | _ => true) = true := by
  unfold Prog.at
  simp only [reachFrom_eq, Table.getD_eq_get]
  decide +kernel

end WS.Props.C20
