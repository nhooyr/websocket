import WS.Props.G2.FrameWrite
import WS.Props.G2.EveryInt
/-
  writeFrameHeader for *every* payload length: the table is compared with the regenerated skeleton on `lenReps`
  (`writeFrameHeader_matches`), which holds a representative for every way a length can compare with the constants of the
  skeleton and of the table; a run depends on the length only through those comparisons (`WS.Model.Guard.run_far`, proved for
  every program of the DSL), and so does the table — hence they agree on every integer (`run_every`).
-/
namespace WS.Props.G2
open WS WS.Model WS.Model.Guard WS.Gen.Guards2

theorem writeHdrExpected_far (fin r1 r2 r3 masked : Bool) (e1 e2 e3 e4 : Bool) (len r : Int) (h : Agree [65535, 125, 0] len r) :
    writeHdrExpected fin r1 r2 r3 masked len e1 e2 e3 e4 = writeHdrExpected fin r1 r2 r3 masked r e1 e2 e3 e4 := by
  have h1 := h 65535 (by simp); have h2 := h 125 (by simp); have h3 := h 0 (by simp)
  have a1 : (len > 65535) = (r > 65535) := propext (by omega)
  have a2 : (len > 125) = (r > 125) := propext (by omega)
  have a3 : (len ≥ 0) = (r ≥ 0) := propext (by omega)
  simp only [writeHdrExpected, a1, a2, a3]

/-- **writeFrameHeader, every length** (nothing fails): first byte, second byte with the 7-bit length field — the length itself up to
125, 126 for lengths that need 16 bits, 127 beyond 65535 —, the extended length in exactly that many bytes, the key iff MASK. -/
theorem writeFrameHeader_every_length (fin r1 r2 r3 masked : Bool) (len : Int) :
    run (envWriteHdr fin r1 r2 r3 masked len false false false false) g_c_writeFrameHeader
      = writeHdrExpected fin r1 r2 r3 masked len false false false false :=
  run_every_int g_c_writeFrameHeader [65535, 125, 0] (writeHdrExpected_far fin r1 r2 r3 masked false false false false)
    (fun r hr => writeFrameHeader_matches fin r1 r2 r3 masked r
      ((by decide : ∀ r ∈ reps (constsL g_c_writeFrameHeader ++ [65535, 125, 0]), r ∈ lenReps) r hr)) len

end WS.Props.G2
