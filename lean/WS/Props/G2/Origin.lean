import WS.Props.G2.HandshakeDefs
/-
  authenticateOrigin (accept.go) as written now against its decision table (C12).
-/
namespace WS.Props.G2
open WS WS.Model WS.Model.Guard WS.Gen.Guards2

theorem authenticateOrigin_matches : ∀ has parseErr same more mErr matched hostEmpty : Bool,
    run (envOrigin has parseErr same more mErr matched hostEmpty) g_c_authenticateOrigin
      = originExpected has parseErr same more mErr matched := by
  decide +kernel

end WS.Props.G2
