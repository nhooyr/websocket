import WS.Props.G2.Util
import WS.Proofs.GuardFar
/-
  `WS.Model.Guard.run_every` (a table checked on the representatives of an integer atom holds for every integer) for the
  environments of this directory, which give the integer atoms as an association list.
-/
namespace WS.Props.G2
open WS.Model.Guard

theorem mkEnv_setI (bs : List (String × Bool)) (n : String) (x z : Int) (is : List (String × Int)) (pass : List String) :
    mkEnv bs ((n, x) :: is) pass = (mkEnv bs ((n, z) :: is) pass).setI n x := by
  simp only [mkEnv, Env.setI, Env.mk.injEq, true_and, and_true]
  funext m
  simp only [List.lookup_cons]
  split <;> simp_all

theorem run_every_int {bs : List (String × Bool)} {n : String} {is : List (String × Int)} {pass : List String} (p : GProg)
    {T : Int → Res} (cs : List Int) (hT : ∀ x y, Agree cs x y → T x = T y)
    (h : ∀ r ∈ reps (constsL p ++ cs), run (mkEnv bs ((n, r) :: is) pass) p = T r) (x : Int) :
    run (mkEnv bs ((n, x) :: is) pass) p = T x := by
  rw [mkEnv_setI bs n x 0]
  exact run_every (fun _ => rfl) p cs hT (fun r hr => mkEnv_setI bs n r 0 is pass ▸ h r hr) x

end WS.Props.G2
