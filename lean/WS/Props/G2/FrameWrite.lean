import WS.Props.G2.FrameDefs
import WS.Props.FrameCodec
/-
  writeFrameHeader (frame.go) as written now against its decision table on every boundary of the length encoding (C02).
-/
namespace WS.Props.G2
open WS WS.Model WS.Model.Guard WS.Gen.Guards2

/-- representatives: every constant the length decisions compare with, and its neighbours (`WS/G2Cex.lean`, the
counterexample search, enumerates a copy of this list: the two are to be kept equal). -/
def lenReps : List Int := [-1, 0, 1, 124, 125, 126, 127, 65534, 65535, 65536, 65537, 4611686018427387904]

theorem writeFrameHeader_matches : ∀ fin r1 r2 r3 masked : Bool, ∀ len ∈ lenReps,
    run (envWriteHdr fin r1 r2 r3 masked len false false false false) g_c_writeFrameHeader
      = writeHdrExpected fin r1 r2 r3 masked len false false false false := by
  decide +kernel

/-- a failed write stops the emission at that point. -/
theorem writeFrameHeader_failures : ∀ masked : Bool, ∀ len ∈ lenReps, ∀ e1 e2 e3 e4 : Bool,
    run (envWriteHdr true false false false masked len e1 e2 e3 e4) g_c_writeFrameHeader
      = writeHdrExpected true false false false masked len e1 e2 e3 e4 := by
  decide +kernel

/-- the table's choice of length form is the frame model's, for every length: the header the model encodes is two bytes,
the table's extended length and the key. -/
theorem table_form_is_model_form (h : Header) :
    (encodeHeader h).length = 2 + tableExtBytes h.len + (if h.masked then (h.key.take 4).length else 0) := by
  rw [WS.Props.FrameCodec.encode_length, tableExtBytes]
  congr 2
  repeat' split
  all_goals omega

end WS.Props.G2
