import WS.Props.G2.HandshakeDefs
import WS.Props.G2.CloseSeqDefs
import WS.Props.G2.ReadDefs
import WS.Props.G2.WriteDefs
import WS.Props.G2.NetDefs
/-
  What the decision tables of this directory say, in the words of the properties.  These theorems are about the tables alone
  (they do not mention the regenerated code): they are the reading of a table that its obligation
  `run env <regenerated skeleton> = <table>` then transfers to the code as written now.
-/
namespace WS.Props.G2
open WS WS.Model.Guard

def posOf (a : String) (r : Res) : Option Nat := r.acts.findIdx? (· == a)

def before (a b : String) (r : Res) : Bool :=
  match posOf a r, posOf b r with
  | some i, some j => decide (i < j)
  | _, _ => false

/-- C11 / C12: `accept` writes the 101 only when the request was acceptable, the origin authorised (or verification switched
off) and the writer can be hijacked; and every refusal is answered before any upgrade header is set. -/
theorem accept_101_only_after_all_checks : ∀ vErr skip oErr badPat hj sub defl hjErr : Bool,
    (acceptExpected vErr skip oErr badPat hj sub defl hjErr).acts.contains "w.WriteHeader(101)" = true →
      vErr = false ∧ (skip = true ∨ oErr = false) ∧ hj = true := by
  decide

theorem accept_refusal_sets_no_upgrade_header : ∀ vErr skip oErr badPat hj sub defl hjErr : Bool,
    (vErr = true ∨ (skip = false ∧ oErr = true) ∨ hj = false) →
      (acceptExpected vErr skip oErr badPat hj sub defl hjErr).acts.contains "w.Header().Set(Upgrade,websocket)" = false
        ∧ (acceptExpected vErr skip oErr badPat hj sub defl hjErr).out = .ret "err" := by
  decide

/-- C12: an origin that is refused is answered with 403. -/
theorem accept_origin_refused_is_403 : ∀ badPat hj sub defl hjErr : Bool,
    (acceptExpected false false true badPat hj sub defl hjErr).acts.contains "http.Error(_,_,403)" = true := by
  decide

/-- C11: a connection object is produced only on the path that returns success. -/
theorem accept_conn_only_on_success : ∀ vErr skip oErr badPat hj sub defl hjErr : Bool,
    (acceptExpected vErr skip oErr badPat hj sub defl hjErr).acts.contains "newConn" = true ↔
      (acceptExpected vErr skip oErr badPat hj sub defl hjErr).out = .ret "ok" := by
  decide

/-- C06 / C20: the caller that gets the closing role always closes the connection and joins the goroutines, whatever the
handshake's outcome; a later caller never performs a handshake and reports `net.ErrClosed` (or the join's failure). -/
theorem close_first_closer_always_closes_and_joins : ∀ wg1 hs cl wg2 : Bool,
    before "closeHandshake" "close" (closeExpected true wg1 hs cl wg2) = true
      ∧ before "close" "waitGoroutines" (closeExpected true wg1 hs cl wg2) = true := by
  decide

theorem close_later_caller_refused : ∀ wg1 hs cl wg2 : Bool,
    (closeExpected false wg1 hs cl wg2).acts = ["waitGoroutines"]
      ∧ ((closeExpected false wg1 hs cl wg2).out = .ret "err:net.ErrClosed" ∨ (closeExpected false wg1 hs cl wg2).out = .ret "err") := by
  decide

/-- C09: CloseNow closes the connection in either role. -/
theorem closeNow_always_closes : ∀ first wg1 cl wg2 : Bool,
    (closeNowExpected first wg1 cl wg2).acts.contains "close" = true := by
  decide

/-- C16: the Close frame is written before the peer's Close frame is awaited, and never after a failed write. -/
theorem handshake_writes_before_waiting : ∀ w waitErr other : Bool,
    (w = false → before "writeClose" "waitCloseHandshake" (handshakeExpected w waitErr other) = true)
      ∧ (w = true → (handshakeExpected w waitErr other).acts = ["writeClose"]) := by
  decide

/-- C08: with the allowance used up nothing more is read and the message fails with a Close frame (1009); and a message whose
last permitted byte arrives together with the source's end fails as well. -/
theorem limit_enforced : ∀ big : Bool, ∀ k ∈ EK.all, ∀ n' ∈ [(-1 : Int), 0, 3],
    limitReadExpected 0 n' big k = errRes ["writeError"]
      ∧ (limitReadExpected 7 0 big .eof).out = .ret "err" ∧ (limitReadExpected 7 0 big .ueof).out = .ret "err" := by
  decide

/-- C04: the frame reader's own end of message is the only way to a clean end without compression. -/
theorem clean_end_needs_message_end : ∀ k1 ∈ EK.all, ∀ takeover copyErr fin pl0 : Bool,
    (msgReaderReadExpected false k1 false takeover copyErr fin pl0).out = .ret "err:io.EOF" → k1 = .eof := by
  decide

/-- C05 / C01: the message lock is released only after the final frame was written, and never when that write failed. -/
theorem message_lock_released_after_final_frame : ∀ lockErr closed flate flushErr frameErr takeover : Bool,
    (mwCloseExpected lockErr closed flate flushErr frameErr takeover).acts.contains "mu.unlock" = true →
      before "writeFrame(ctx,true,flate,opcode,nil)" "mu.unlock" (mwCloseExpected lockErr closed flate flushErr frameErr takeover) = true
        ∧ frameErr = false := by
  decide

/-- C10: a new message touches the writer's state only after it holds the message lock. -/
theorem writer_state_after_lock : before "mu.lock" "ctx=ctx" (msgWriterResetExpected false) = true
    ∧ (msgWriterResetExpected true).acts = ["mu.lock"] := by
  decide

/-- C15: a Ping is registered before its frame is written. -/
theorem ping_registered_before_written : ∀ wErr : Bool,
    before "activePings[p]=make(chanstruct{},1)" "writeControl" (pingExpected wErr) = true := by
  decide

/-- C19 / C07: the pooled buffer is given back exactly once — by the deferred Put — on every path that took it. -/
theorem json_buffer_put_once : ∀ rErr cErr uErr : Bool,
    ((jsonReadExpected rErr cErr uErr).acts.filter (fun a => a == "defer bpool.Put(_)" || a == "bpool.Put(_)")).length
      = (if rErr then 0 else 1) := by
  decide

/-- C18: the end of one message is not the end of the stream; only the peer's normal close is `io.EOF`. -/
theorem netconn_eof_only_after_normal_close : ∀ hasReader rErr mismatch : Bool, ∀ status ∈ [(-1 : Int), 1000, 1001, 1002, 1006], ∀ k ∈ [EK.nil, .eof, .other],
    (netReadExpected false false hasReader rErr status mismatch k).out = .ret "err:io.EOF" →
      hasReader = false ∧ rErr = true ∧ (status = 1000 ∨ status = 1001) := by
  decide

end WS.Props.G2
