import WS.Props.G2.HandshakeDefs
/-
  acceptDeflate (accept.go) and verifyServerExtensions (dial.go) as written now against decision tables and the handshake model (C13, C14).
-/
namespace WS.Props.G2
open WS WS.Model WS.Model.Guard WS.Gen.Guards2

/-- `acceptDeflate`, one parameter of an offer: exactly what the handshake model does with a parameter of that kind (C14). -/
theorem acceptDeflate_step_matches : ∀ more seen : Bool, ∀ k ∈ PK.all,
    run (envAcceptDeflate more seen k) g_c_acceptDeflate = acceptDeflateExpected more seen k := by
  decide +kernel

theorem verifyServerExtensions_matches : ∀ any notPMD many offered more : Bool, ∀ k ∈ RK.all,
    run (envVSE any notPMD many offered more k) g_c_verifyServerExtensions = vseExpected any notPMD many offered more k := by
  decide +kernel

end WS.Props.G2
