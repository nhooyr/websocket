import WS.Props.G2.ReadDefs
/-
  limitReader.Read (read.go) as written now against its decision table (C08).
-/
namespace WS.Props.G2
open WS WS.Model.Guard WS.Gen.Guards2

theorem limitReader_Read_matches : ∀ n ∈ [(-1 : Int), 0, 1, 7], ∀ n' ∈ [(-1 : Int), 0, 3], ∀ big : Bool, ∀ k ∈ EK.all,
    run (envLimitRead n n' big k) g_c_limitReader_Read = limitReadExpected n n' big k := by
  decide +kernel

end WS.Props.G2
