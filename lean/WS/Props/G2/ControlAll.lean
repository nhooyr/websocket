import WS.Props.G2.Control
import WS.Props.G2.EveryInt
/-
  handleControl for *every* payload length: lifted from representatives by `WS.Model.Guard.run_every` (a run depends on an
  integer atom only through the program's comparisons, and so does the table).
-/
namespace WS.Props.G2
open WS WS.Model WS.Model.Guard WS.Gen.Guards2

theorem handleControlExpected_far (fin ioErr masked : Bool) (op : Nat) (pongErr parseErr : Bool) (len r : Int) (h : Agree [0, 125] len r) :
    handleControlExpected len fin ioErr masked op pongErr parseErr = handleControlExpected r fin ioErr masked op pongErr parseErr := by
  have h1 := h 0 (by simp); have h2 := h 125 (by simp)
  have a1 : (len < 0) = (r < 0) := propext (by omega)
  have a2 : (len > 125) = (r > 125) := propext (by omega)
  simp only [handleControlExpected, a1, a2]

/-- the representatives that `handleControl_matches` lacks: 124, and — `run_far` does not tell atoms apart, so the opcodes 9 and 10
the skeleton switches on count as constants the length could be compared with — 8 to 11. -/
theorem handleControl_reps : ∀ len ∈ [(8 : Int), 9, 10, 11, 124], ∀ fin ioErr masked : Bool, ∀ op ∈ [8, 9, 10], ∀ pongErr known parseErr : Bool,
    run (envHandleControl len fin ioErr masked op pongErr known parseErr) g_c_Conn_handleControl
      = handleControlExpected len fin ioErr masked op pongErr parseErr := by
  decide +kernel

/-- **handleControl, every length**: a control frame longer than 125 bytes (or of negative length) is a protocol error answered with
a Close frame, whatever else holds; up to 125 bytes the payload is read and the frame dispatched. -/
theorem handleControl_every_length (len : Int) (fin ioErr masked : Bool) (op : Nat) (hop : op ∈ [8, 9, 10]) (pongErr known parseErr : Bool) :
    run (envHandleControl len fin ioErr masked op pongErr known parseErr) g_c_Conn_handleControl
      = handleControlExpected len fin ioErr masked op pongErr parseErr :=
  run_every_int g_c_Conn_handleControl [0, 125] (handleControlExpected_far fin ioErr masked op pongErr parseErr)
    (fun r hr =>
      ((by decide : ∀ r ∈ reps (constsL g_c_Conn_handleControl ++ [0, 125]), r ∈ [(-1 : Int), 0, 1, 125, 126, 65536] ∨ r ∈ [(8 : Int), 9, 10, 11, 124]) r hr).elim
        (handleControl_matches r · fin ioErr masked op hop pongErr known parseErr)
        (handleControl_reps r · fin ioErr masked op hop pongErr known parseErr)) len

end WS.Props.G2
