import WS.Props.G2.WriteDefs
/-
  msgWriter.reset, Conn.write and msgWriter.Close (write.go) as written now against decision tables (C01, C02, C05, C07, C10).
-/
namespace WS.Props.G2
open WS WS.Model.Guard WS.Gen.Guards2

theorem msgWriter_reset_matches : ∀ lockErr : Bool,
    run (mkEnv [("mu.lock:err!=nil", lockErr)]) g_c_msgWriter_reset = msgWriterResetExpected lockErr := by
  decide +kernel

theorem Conn_write_matches : ∀ wErr flate fErr mwErr clErr : Bool,
    run (envConnWrite wErr flate fErr mwErr clErr) g_c_Conn_write = connWriteExpected wErr flate fErr mwErr clErr := by
  decide +kernel

theorem msgWriter_Close_matches : ∀ lockErr closed flate flushErr frameErr takeover : Bool,
    run (envMwClose lockErr closed flate flushErr frameErr takeover) g_c_msgWriter_Close
      = mwCloseExpected lockErr closed flate flushErr frameErr takeover := by
  decide +kernel

end WS.Props.G2
