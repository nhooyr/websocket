import WS.Props.G2.HandshakeDefs
/-
  verifyServerResponse and verifySubprotocol (dial.go) as written now against decision tables (C13).
-/
namespace WS.Props.G2
open WS WS.Model WS.Model.Guard WS.Gen.Guards2

theorem verifyServerResponse_matches : ∀ status ∈ [101, 200, 400], ∀ conn upg acceptBad subErr extErr : Bool,
    run (envVSR status conn upg acceptBad subErr extErr) g_c_verifyServerResponse
      = vsrExpected status conn upg acceptBad subErr extErr := by
  decide +kernel

theorem verifySubprotocol_matches : ∀ has more eq : Bool,
    run (envVSub has more eq) g_c_verifySubprotocol = vsubExpected has more eq := by
  decide +kernel

end WS.Props.G2
