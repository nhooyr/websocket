import WS.Props.CIRCert.Lockset
namespace WS.Props.CIRCert
open WS.CIR WS.Gen
theorem frames_ok : Bracket.check Specs.frameSpec ConnCIR.prog ConnCIR.lockCert ConnCIR.frameOpen = true := by
  unfold Bracket.check Bracket.checkNode Bracket.isOpen Lockset.held Prog.at
  simp only [lockset_ok, Bool.true_and, Table.getD_eq_get]
  decide +kernel
end WS.Props.CIRCert
