import WS.Props.CIRCert.Lockset
namespace WS.Props.CIRCert
open WS.CIR WS.Gen
theorem arming_ok : Arming.check (Specs.armSpec ConnCIR.armExempt) ConnCIR.prog ConnCIR.lockCert ⟨ConnCIR.armMay, ConnCIR.armMust⟩ = true := by
  unfold Arming.check Arming.checkNode Arming.mayAt Arming.mustAt Lockset.held Prog.at
  simp only [lockset_ok, Bool.true_and, Table.getD_eq_get]
  decide +kernel
end WS.Props.CIRCert
