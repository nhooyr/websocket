import WS.Gen.ConnCIR
import WS.CIR.Specs
namespace WS.Props.CIRCert
open WS.CIR WS.Gen
/-
  The per-run obligations `WS/Props/CIRCert/*`: the certificates that /verif/cir/conn_cir.py computed for
  the connection skeleton pass their checkers.  Each is a kernel evaluation; before it runs, every lookup
  by node (`Prog.at`, `held`, `isOpen`, …, all of them `List.getD`) is rewritten by `Table.getD_eq_get`
  into a lookup in a balanced tree, so that the sweep over the 726 nodes is not quadratic.
-/

theorem lockset_ok : Lockset.check ConnCIR.prog ConnCIR.lockCert = true := by
  unfold Lockset.check Lockset.checkNode Lockset.held Prog.at
  simp only [Table.getD_eq_get]
  decide +kernel
end WS.Props.CIRCert
