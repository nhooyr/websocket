import WS.Props.CIRCert.Lockset
namespace WS.Props.CIRCert
open WS.CIR WS.Gen
theorem closesent_ok : CloseSent.check Specs.closeSpec ConnCIR.prog ConnCIR.lockCert ConnCIR.closeKnow = true := by
  unfold CloseSent.check CloseSent.checkNode CloseSent.know Lockset.held Prog.at
  simp only [lockset_ok, Bool.true_and, Table.getD_eq_get]
  decide +kernel
end WS.Props.CIRCert
