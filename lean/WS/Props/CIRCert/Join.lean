import WS.Gen.ConnCIR
import WS.CIR.Specs
namespace WS.Props.CIRCert
open WS.CIR WS.Gen
theorem join_ok : Join.checkJoin ConnCIR.prog ConnCIR.joined = true := by
  unfold Join.checkJoin Join.checkJoinNode Join.joinedAt Prog.at
  simp only [Table.getD_eq_get]
  decide +kernel
theorem signal_last_ok : Join.signalLast ConnCIR.prog Specs.chTimeoutLoopDone = true ∧ Join.signalLast ConnCIR.prog Specs.chCloseReadDone = true := by
  unfold Join.signalLast Prog.at
  simp only [Table.getD_eq_get]
  decide +kernel
end WS.Props.CIRCert
