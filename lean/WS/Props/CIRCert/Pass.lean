import WS.Gen.ConnCIR
import WS.CIR.Specs
namespace WS.Props.CIRCert
open WS.CIR WS.Gen
theorem pass_closed_ok : Join.checkPass fCLOSED ConnCIR.passExemptClosed ConnCIR.prog ConnCIR.passedClosed = true := by
  unfold Join.checkPass Join.checkPassNode Join.passedAt Prog.at
  simp only [Table.getD_eq_get]
  decide +kernel
theorem pass_closing_ok : Join.checkPass Specs.fClosing ConnCIR.passExemptClosing ConnCIR.prog ConnCIR.passedClosing = true := by
  unfold Join.checkPass Join.checkPassNode Join.passedAt Prog.at
  simp only [Table.getD_eq_get]
  decide +kernel
end WS.Props.CIRCert
