import WS.Props.CIRCert.Lockset
namespace WS.Props.CIRCert
open WS.CIR WS.Gen
theorem messages_ok : Bracket.check Specs.msgSpec ConnCIR.prog ConnCIR.lockCert ConnCIR.msgOpen = true := by
  unfold Bracket.check Bracket.checkNode Bracket.isOpen Lockset.held Prog.at
  simp only [lockset_ok, Bool.true_and, Table.getD_eq_get]
  decide +kernel
end WS.Props.CIRCert
