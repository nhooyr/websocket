import WS.Gen.ConnCIR
import WS.Gen.Skeleton
/-
  The tie between the hand-written CIR skeleton (/verif/cir/conn_cir.py → WS/Gen/ConnCIR.lean) and
  the Go source: for every function of the synchronisation skeleton, the set of synchronisation
  primitives /verif/extract finds in the *current* source (WS/Gen/Skeleton.lean, regenerated on every
  run) equals the set the skeleton attributes to that function.  Adding or removing a lock, unlock,
  timeout-slot hand-off, transport operation, flag access, goroutine start, channel close/receive or
  a call between these functions changes the extracted set and breaks this obligation.
  Both sides of each obligation are literal tables printed by the two generators, so `rfl` compares them as
  they stand (string literals by value), which costs nothing; `decide` would take every string apart.
-/
namespace WS.Props.CIRTie
open WS.Gen

theorem skeleton_matches_source : ConnCIR.skeleton = Skeleton.code := rfl

/-- the CIR builder and the translator read the same committed ordered skeleton. -/
theorem golden_in_sync : ConnCIR.orderedDeclared = Skeleton.declaredTokens := rfl

/-- the sharper tie: for every function of the skeleton, the **language of primitive sequences along its paths**
from entry to exit — primitives in order, through `if` / `else`, loops, `select`, `switch`, `defer` bodies, inlined
helpers, `return`, `break`, `continue` — is what it was when the CIR program was written against the source
(/verif/cir/skeleton_ordered.json).  Both sides are canonical minimal DFAs computed by the translator (paths.go), so
the comparison does not depend on how the control flow is spelled: an if-chain or a switch, early returns or else
branches, `continue` or a shared tail, merged identical branches, a helper extracted or inlined give the same language.
Moving a flag update across an unlock, swapping two lock acquisitions, arming a timeout before taking a lock,
returning before a join or dropping a branch changes the language and breaks this obligation; code that does not
synchronise can change freely. -/
theorem ordered_matches_source : Skeleton.declared = Skeleton.ordered := rfl

end WS.Props.CIRTie
