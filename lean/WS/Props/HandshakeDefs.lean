import WS.Model.Handshake
/-
  What the handshake theorems are stated with: the pattern characters of `filepath.Match` (C12) and the RFC 7692 §7.1
  offer grammar as this server can honour it (C14).
-/
namespace WS.Props.C12
open WS WS.Model

def plainChar (c : Char) : Bool := c != '*' && c != '?' && c != '[' && c != '\\'

end WS.Props.C12

namespace WS.Props.C14
open WS WS.Model

def pCNCT : Str := s "client_no_context_takeover"
def pSNCT : Str := s "server_no_context_takeover"
def pmd : Str := s "permessage-deflate"

/-- RFC 7692 §7.1 offer parameters this server can honour: the two flags (without value),
`client_max_window_bits` without value or with 8..15, and `server_max_window_bits=15` (the
library cannot shrink its window, so smaller values must be declined). -/
def paramOK (p : Str) : Bool :=
  p == pCNCT || p == pSNCT || p == s "client_max_window_bits" || p == s "server_max_window_bits=15" ||
  windowBitsValues.any (fun v => p == s "client_max_window_bits=" ++ v)

def OfferOK (params : List Str) : Prop := (∀ p ∈ params, paramOK p = true) ∧ (params.map paramName).Nodup

end WS.Props.C14
