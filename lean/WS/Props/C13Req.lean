import WS.Proofs.HandshakeE2E
import WS.Props.C11
/-
  C13, first half — "Dial sends a well-formed upgrade request": theorems about the request model
  (WS/Model/DialReq.lean), for every set of caller headers, subprotocol list, compression offer, key.
-/
namespace WS.Props.C13
open WS WS.Model WS.Proofs.HandshakeE2E

/-- each of the four mandatory headers has exactly this one value in the request, whatever the caller
supplied and whatever was set after it. -/
theorem request_header (caller : Hdr) (host : Str) (sps : List Str) (copts : Option Copts) (key : Str) :
    let r := dialRequest caller host sps copts key
    r.hdr.values (s "Connection") = [s "Upgrade"] ∧ r.hdr.values (s "Upgrade") = [s "websocket"] ∧
    r.hdr.values (s "Sec-Websocket-Version") = [s "13"] ∧ r.hdr.values (s "Sec-Websocket-Key") = [key] := by
  simp only [dialRequest]
  split <;> split <;> simp [values_set, s_inj]

/-- the two optional headers: set when subprotocols / compression were asked for, otherwise whatever the
caller put under those keys goes out unchanged. -/
theorem request_optional (caller : Hdr) (host : Str) (sps : List Str) (copts : Option Copts) (key : Str) :
    let r := dialRequest caller host sps copts key
    r.hdr.values (s "Sec-Websocket-Protocol") =
      (if sps.isEmpty then caller.values (s "Sec-Websocket-Protocol") else [joinComma sps]) ∧
    r.hdr.values (s "Sec-Websocket-Extensions") =
      (match copts with
       | none => caller.values (s "Sec-Websocket-Extensions")
       | some c => [coptsString c]) := by
  simp only [dialRequest]
  split <;> split <;> simp [values_set, s_inj]

/-- **the request is one the other side accepts**: for every set of caller headers (even ones that name
Connection, Upgrade, the version or a key themselves), every subprotocol list, every compression offer and
every key that is the base64 of 16 bytes, the request Dial sends satisfies Accept's check
(`verifyClientRequest = 0`, cf. C11.accept_iff): GET, HTTP/1.1, Connection: Upgrade, Upgrade: websocket,
version 13, exactly one key. -/
theorem dial_request_acceptable (caller : Hdr) (host : Str) (sps : List Str) (copts : Option Copts) (key : Str)
    (v : Bytes) (hk : Spec.b64Decode (trimSpace key) = some v) (hv : v.length = 16) :
    verifyClientRequest (dialRequest caller host sps copts key) = 0 := by
  obtain ⟨h1, h2, h3, h4⟩ := request_header caller host sps copts key
  exact (C11.accept_iff _).2 ⟨.inr ⟨rfl, Nat.le_refl 1⟩, (upgrade_tokens h1 h2).1, (upgrade_tokens h1 h2).2.1, rfl,
    get_of_values h3, key, v, h4, hk, hv⟩

/-- the subprotocols and the extension offer are sent exactly when they were asked for: a request for
neither leaves whatever the caller put under those keys untouched and adds nothing. -/
theorem nothing_unrequested (caller : Hdr) (host key : Str) :
    (dialRequest caller host [] none key).hdr.values (s "Sec-Websocket-Protocol") = caller.values (s "Sec-Websocket-Protocol") ∧
    (dialRequest caller host [] none key).hdr.values (s "Sec-Websocket-Extensions") = caller.values (s "Sec-Websocket-Extensions") :=
  request_optional caller host [] none key

/-- non-vacuity: a concrete request (the key of RFC 6455's example). -/
example : verifyClientRequest (dialRequest [(s "Cookie", [s "a=b"]), (s "Connection", [s "close"])] (s "example.com")
    [s "chat", s "superchat"] (some (modeOpts 2)) (s "dGhlIHNhbXBsZSBub25jZQ==")) = 0 := by decide +kernel

end WS.Props.C13
