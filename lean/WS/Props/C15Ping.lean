import WS.Model.Ping
import Std.Data.String.ToNat
/-
  C15, first half — "Ping waits for its own Pong": theorems about the registry model
  (WS/Model/Ping.lean), for every history of other Pings, Pongs, cancellations and returns.
-/
namespace WS.Props.C15
open WS.Model.Ping

/-- decimal payloads identify their call: distinct counters give distinct Ping payloads. -/
theorem payload_injective (a b : Nat) (h : payloadOf a = payloadOf b) : a = b :=
  Nat.repr_inj.mp h

theorem finish_out (s : St) (id : Nat) :
    (step s (.finish id)).2 = if gotOf s id then .returnedOk id else .nothing := by
  simp only [step]; split <;> rfl

theorem gotOf_iff {s : St} {id : Nat} : gotOf s id = true ↔ ∃ x ∈ s.active, x.id = id ∧ x.got = true := by
  simp [gotOf]

theorem after_induction (P : St → Prop) {es : List Ev} {s : St} (h0 : P s)
    (hstep : ∀ s, P s → ∀ e ∈ es, P (step s e).1) : P (after es s) := by
  induction es generalizing s with
  | nil => exact h0
  | cons e es ih => exact ih (hstep s h0 e (by simp)) fun s hs e he => hstep s hs e (by simp [he])

/-- where the entries after a step come from: the new call's (on `start`), or an older entry of the same
call, which has a token it did not have before only after a Pong with its payload. -/
theorem mem_step {s : St} {e : Ev} {x : Entry} (hx : x ∈ (step s e).1.active) :
    (e = .start ∧ x = ⟨s.counter + 1, false⟩) ∨
      ∃ y ∈ s.active, x.id = y.id ∧ (x.got = y.got ∨ e = .pong (payloadOf y.id)) := by
  cases e with
  | start =>
    simp only [step, List.mem_append, List.mem_singleton] at hx
    exact hx.symm.imp (⟨rfl, ·⟩) fun h => ⟨x, h, rfl, .inl rfl⟩
  | pong p =>
    simp only [step, List.mem_map] at hx
    obtain ⟨y, hy, rfl⟩ := hx
    refine .inr ⟨y, hy, ?_⟩
    unfold mark; split <;> simp [*]
  | cancel j | finish j =>
    simp only [step] at hx
    split at hx
    · exact .inr ⟨x, (List.mem_filter.mp hx).1, rfl, .inl rfl⟩
    · exact .inr ⟨x, hx, rfl, .inl rfl⟩

def leaves (id : Nat) : Ev → Bool
  | .cancel j | .finish j => j != id
  | _ => true

/-- an entry stays through every event that leaves its call alone, keeps its token, and gets one from a
Pong with its payload. -/
theorem mem_step_of_leaves {s : St} {e : Ev} {y : Entry} (hy : y ∈ s.active) (hl : leaves y.id e = true) :
    ∃ x ∈ (step s e).1.active, x.id = y.id ∧ (y.got = true ∨ e = .pong (payloadOf y.id) → x.got = true) := by
  cases e with
  | start => exact ⟨y, by simp [step, hy], rfl, by simp⟩
  | pong p =>
    refine ⟨mark p y, by simp only [step, List.mem_map]; exact ⟨y, hy, rfl⟩, ?_⟩
    by_cases h : payloadOf y.id = p
    · simp [mark, h]
    · simp [mark, h, Ne.symm h]
  | cancel j | finish j =>
    have hj : j ≠ y.id := by simpa [leaves] using hl
    simp only [step]
    split
    · exact ⟨y, by simp [List.mem_filter, hy, Ne.symm hj], rfl, by simp⟩
    · exact ⟨y, hy, rfl, by simp⟩

theorem counter_le_step (s : St) (e : Ev) : s.counter ≤ (step s e).1.counter := by
  cases e <;> simp only [step] <;> (try split) <;> simp

/-- every registered id was drawn from the counter. -/
theorem ids_le_counter (pre : List Ev) : ∀ x ∈ (after pre init).active, x.id ≤ (after pre init).counter := by
  refine after_induction (fun s => ∀ x ∈ s.active, x.id ≤ s.counter) (by simp [init]) fun s hs e _ x hx => ?_
  rcases mem_step hx with ⟨rfl, rfl⟩ | ⟨y, hy, hid, _⟩
  · simp [step]
  · exact hid ▸ Nat.le_trans (hs y hy) (counter_le_step s e)

/-- a call started in any state whose ids were drawn from the counter does not return successfully unless a
Pong with its payload arrives after it started. -/
theorem no_success_from (s0 : St) (hs : ∀ x ∈ s0.active, x.id ≤ s0.counter) (mid : List Ev)
    (hmid : ∀ e ∈ mid, e ≠ .pong (payloadOf (s0.counter + 1))) :
    (step (after mid (step s0 .start).1) (.finish (s0.counter + 1))).2 = .nothing := by
  -- no entry of the call holds a token: not at the start (a Pong that arrived before does not count: the
  -- new channel is empty and older ids are below the counter), not later
  have h : ∀ x ∈ (after mid (step s0 .start).1).active, x.id = s0.counter + 1 → x.got = false := by
    refine after_induction (fun s => ∀ x ∈ s.active, x.id = s0.counter + 1 → x.got = false) ?_
      fun s hs e he x hx hid => ?_
    · simp only [step, List.mem_append, List.mem_singleton]
      rintro x (hx | rfl) hid
      · have := hs x hx; omega
      · rfl
    · rcases mem_step hx with ⟨_, rfl⟩ | ⟨y, hy, hyid, hg | rfl⟩
      · rfl
      · rw [hg]; exact hs y hy (hyid ▸ hid)
      · exact absurd (by rw [← hyid, hid]) (hmid _ he)
  rw [finish_out, if_neg]
  rw [gotOf_iff]
  rintro ⟨x, hx, hid, hg⟩
  simp [h x hx hid] at hg

/-- **Ping waits for its own Pong**: whatever happened on the connection before the call (`pre`), and
whatever happens while it waits (`mid`: other Pings starting, returning or giving up, Pongs with any
other payload — unsolicited, duplicated, belonging to other calls), the call does not return
successfully unless a Pong carrying exactly its payload arrived after it started. -/
theorem no_success_without_own_pong (pre mid : List Ev) :
    let s0 := after pre init
    let id := s0.counter + 1
    (∀ e ∈ mid, e ≠ .pong (payloadOf id)) →
    (step (after mid (step s0 .start).1) (.finish id)).2 = .nothing :=
  no_success_from _ (ids_le_counter pre) mid

/-- a Pong marks only the entries whose payload it carries: every other outstanding call is unchanged. -/
theorem pong_marks_only_own (s : St) (id : Nat) :
    ∀ x ∈ s.active, x.id ≠ id → mark (payloadOf id) x = x := by
  intro x _ hne
  rw [mark, if_neg fun h => hne (payload_injective _ _ h)]

/-- a Pong with a payload no outstanding call uses (unsolicited, stale, foreign) changes nothing. -/
theorem foreign_pong_ignored (s : St) (p : String) (h : ∀ x ∈ s.active, payloadOf x.id ≠ p) :
    (step s (.pong p)).1 = s := by
  have : s.active.map (mark p) = s.active :=
    (List.map_congr_left fun x hx => by rw [mark, if_neg (h x hx)]; rfl).trans (List.map_id _)
  simp [step, this]

/-- along events that leave the call alone it stays registered (`g = false`), and answered once it is
(`g = true`). -/
theorem run_keeps (es : List Ev) (s : St) (id : Nat) (g : Bool) (hl : ∀ e ∈ es, leaves id e = true)
    (h : ∃ y ∈ s.active, y.id = id ∧ (g = true → y.got = true)) :
    ∃ y ∈ (after es s).active, y.id = id ∧ (g = true → y.got = true) := by
  refine after_induction (fun s => ∃ y ∈ s.active, y.id = id ∧ (g = true → y.got = true)) h ?_
  rintro s ⟨y, hy, rfl, hg⟩ e he
  obtain ⟨x, hx, hid, hxg⟩ := mem_step_of_leaves hy (hl e he)
  exact ⟨x, hx, hid, fun h => hxg (.inl (hg h))⟩

/-- in any state: a call that starts, is left alone by `m1` and `m2` and gets a Pong with its payload in
between returns successfully. -/
theorem own_pong_suffices_from (s0 : St) (m1 m2 : List Ev) (hl : ∀ e ∈ m1 ++ m2, leaves (s0.counter + 1) e = true) :
    (step (after m2 (step (after m1 (step s0 .start).1) (.pong (payloadOf (s0.counter + 1)))).1)
      (.finish (s0.counter + 1))).2 = .returnedOk (s0.counter + 1) := by
  -- registered at the start and through `m1`; answered by the Pong and through `m2`
  obtain ⟨y, hy, hyid, -⟩ := run_keeps m1 (step s0 .start).1 _ false (fun e he => hl e (by simp [he]))
    ⟨⟨s0.counter + 1, false⟩, by simp [step], rfl, nofun⟩
  obtain ⟨x, hx, hid, hg⟩ := mem_step_of_leaves (e := .pong (payloadOf (s0.counter + 1))) hy rfl
  obtain ⟨z, hz, hzid, hzg⟩ := run_keeps m2 _ _ true (fun e he => hl e (by simp [he]))
    ⟨x, hx, hid.trans hyid, fun _ => hg (.inr (by rw [hyid]))⟩
  rw [finish_out, if_pos (gotOf_iff.mpr ⟨z, hz, hzid, hzg rfl⟩)]

/-- **its own Pong is enough**: once a Pong with the call's payload has arrived after the call started
— in any position among other traffic (`m1`, `m2`), in any order relative to other calls' Pongs — and
the call has not given up, it returns successfully. -/
theorem own_pong_suffices (pre m1 m2 : List Ev) :
    let s0 := after pre init
    let id := s0.counter + 1
    (∀ e ∈ m1 ++ m2, leaves id e = true) →
    (step (after m2 (step (after m1 (step s0 .start).1) (.pong (payloadOf id))).1) (.finish id)).2
      = .returnedOk id :=
  own_pong_suffices_from _ m1 m2

/-- non-vacuity and a concrete history: three Pings; Pongs arrive for the third and the first, a foreign
one in between; the second is withheld and its call gives up. -/
example : (run [.start, .start, .start, .pong "3", .pong "heartbeat", .finish 3, .finish 2, .pong "1",
    .finish 1, .cancel 2] init).2 =
    [.sentPing "1", .sentPing "2", .sentPing "3", .nothing, .nothing, .returnedOk 3, .nothing, .nothing,
     .returnedOk 1, .returnedErr 2] := by decide

end WS.Props.C15
