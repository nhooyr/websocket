import WS.Props.C02
import WS.Props.C03
import WS.Proofs.Writer
/-
  C01 — Message round-trip fidelity.
-/
namespace WS.Props.C01
open WS WS.Model WS.Spec WS.Props.FrameCodec

/-- **round trip**: for every role, every negotiated option pair (the writer's own takeover flag
`wcfg.takeover`, the reader's `rtakeover`), every threshold, every program of `Write` / chunked
`Writer` / `Ping` calls, every key stream and every compressor output satisfying the codec law,
the peer that drains its reader over the emitted bytes receives exactly the messages written — same
types, same bytes, same order, one message per call — answers each Ping, and then sees the stream end. -/
theorem roundtrip (inf : Inflate) (wcfg : WCfg) (rtakeover : Bool) (ops : List WOp) (keys : List Bytes)
    (hwf : ∀ op ∈ ops, opWF op) (hnc : ∀ op ∈ ops, isClose op = false) (hctl : ∀ op ∈ ops, ctlOK op)
    (hk : KeysOK keys (runWriter wcfg ops keys).length)
    (hlen : ∀ f ∈ runWriter wcfg ops keys, f.h.len < 2 ^ 63)
    (hcodec : CodecOK inf wcfg rtakeover [] ops) :
    readStream inf { client := !wcfg.client, flate := wcfg.flate, takeover := rtakeover, limit := -1 } []
        (writerBytes wcfg ops keys) =
      (ops.map opEvents).flatten ++ [.fail .io] :=
  WS.Proofs.Writer.roundtrip inf wcfg rtakeover ops keys hwf hnc hctl hk hlen hcodec

/-- the compression tail: after any sequence of writes, what trimLastFourBytesWriter passed on
followed by the tail it withholds is exactly what was written, and it withholds min 4 total. -/
theorem trim_spec (chunks : List Bytes) :
    (trimLastFour chunks).1 ++ (trimLastFour chunks).2 = chunks.flatten ∧
    (trimLastFour chunks).2.length = min 4 chunks.flatten.length :=
  WS.Proofs.Writer.trim_spec chunks

/-- the sliding window after any sequence of writes is the last min(32768, total) bytes written
(this covers histories longer than the window). -/
theorem slide_spec (ws : List Bytes) :
    ws.foldl slide [] = ws.flatten.drop (ws.flatten.length - windowSize) :=
  WS.Proofs.Writer.slide_spec ws

end WS.Props.C01
