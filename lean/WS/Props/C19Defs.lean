import WS.Model.WsJson
/-
  The domain of the Lean JSON codec, as `C19.json_roundtrip` states it.
-/
namespace WS.Props.C19
open WS WS.Model WS.Model.WsJson

/-- strings within the codec's domain: printable ASCII and the control characters Go escapes. -/
def strOK (s : List Char) : Prop := ∀ c ∈ s, c.toNat < 127

mutual
def JOK : J → Prop
  | .null => True
  | .bool _ => True
  | .num _ => True
  | .str s => strOK s
  | .arr l => JsOK l
  | .obj kvs => KVsOK kvs
def JsOK : List J → Prop
  | [] => True
  | v :: rest => JOK v ∧ JsOK rest
def KVsOK : List (List Char × J) → Prop
  | [] => True
  | (k, v) :: rest => strOK k ∧ JOK v ∧ KVsOK rest
end

end WS.Props.C19
