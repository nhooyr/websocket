import WS.Model.Timeout
/-
  C10 / C09 — the timeout goroutine (`WS.Model.Timeout`, tied to conn.go's `timeoutLoop` by driving the
  real goroutine with programs of hand-overs and cancellations). The CIR theorems of C10 say *which*
  context is in which slot; these say what the goroutine does with the slots, for every program.
-/
namespace WS.Props.C10Timeout
open WS.Model.Timeout

/-- settled: an open connection has no done context in a slot. -/
def Settled (s : St) : Prop := s.closed = false → fires s = false

/-- `settle` only ever sets the closed flag. -/
theorem settle_eq (s : St) : settle s = { s with closed := s.closed || fires s } := by
  unfold settle; split <;> simp [*]

theorem isDone_cons (id : Nat) (done : List Nat) (c : Option Nat) :
    isDone (id :: done) c = (decide (c = some id) || isDone done c) := by
  cases c <;> simp [isDone]

theorem fires_done_nil (s : St) (h : s.done = []) : fires s = false := by
  cases hr : s.readCtx <;> cases hw : s.writeCtx <;> simp [fires, isDone, h, hr, hw]

theorem settle_settled (s : St) : Settled (settle s) := by
  rw [settle_eq]; exact fun h => (Bool.or_eq_false_iff.mp h).2

/-- whatever the state before: after a step the loop has reacted. -/
theorem step_settled (s : St) (e : Ev) : Settled (step s e) := by
  unfold step
  split
  · cases e <;> simp [Settled, *]
  · cases e <;> first | exact settle_settled _ | simp [Settled]

theorem run_settled (es : List Ev) (s : St) (h : Settled s) : Settled (run es s) :=
  List.foldlRecOn es step h fun s _ e _ => step_settled s e

theorem init_settled : Settled init := by simp [Settled, init, fires, isDone]

/-- **the two directions are independent**: a hand-over on one channel leaves the other direction's
armed context as it was (the deadline of a blocked write survives any number of reads being armed and
disarmed, and vice versa). -/
theorem arm_read_keeps_write (s : St) (c : Option Nat) : (step s (.armRead c)).writeCtx = s.writeCtx := by
  unfold step; split <;> simp [settle_eq]

theorem arm_write_keeps_read (s : St) (c : Option Nat) : (step s (.armWrite c)).readCtx = s.readCtx := by
  unfold step; split <;> simp [settle_eq]

/-- **while blocked**: when the context in the read or the write slot ends, the connection is closed. -/
theorem armed_cancel_closes (s : St) (id : Nat) (h : s.readCtx = some id ∨ s.writeCtx = some id) :
    (step s (.cancel id)).closed = true := by
  unfold step
  split
  · simp [*]
  · rcases h with h | h <;> simp [settle_eq, fires, isDone_cons, h]

/-- **after success**: the cancellation of a context that is in neither slot does nothing to an open
connection — whatever else has happened before (every reachable state is settled). -/
theorem unarmed_cancel_harmless (s : St) (id : Nat) (hs : Settled s) (hc : s.closed = false)
    (hr : s.readCtx ≠ some id) (hw : s.writeCtx ≠ some id) :
    (step s (.cancel id)).closed = false := by
  have hf := hs hc
  simp only [fires, Bool.or_eq_false_iff] at hf
  simp [step, hc, settle_eq, fires, isDone_cons, hr, hw, hf]

/-- the loop closes an open connection only when an armed context is done (or somebody else closes). -/
theorem closes_only_if_fires (s : St) (e : Ev) (hc : s.closed = false) (h : (step s e).closed = true) :
    e = .connClosed ∨ (∃ c, e = .armRead c ∧ fires { s with readCtx := c } = true) ∨
      (∃ c, e = .armWrite c ∧ fires { s with writeCtx := c } = true) ∨
      (∃ id, e = .cancel id ∧ fires { s with done := id :: s.done } = true) := by
  cases e <;> simp_all [step, settle_eq]

/-- end to end over programs: a call arms its context, finishes, hands Background back; whatever
happens afterwards in the *other* direction, cancelling the finished call's context closes nothing. -/
theorem finished_read_ctx_harmless (es : List Ev) (id : Nat)
    (hes : ∀ e ∈ es, e ≠ .armRead (some id) ∧ e ≠ .armWrite (some id) ∧ e ≠ .connClosed ∧ ∀ k, e ≠ .cancel k) :
    let s := run ([.armRead (some id), .armRead none] ++ es) init
    s.closed = false ∧ (step s (.cancel id)).closed = false := by
  intro s
  -- nothing is ever cancelled, so nothing fires: the connection stays open, and `id` is in neither slot
  have key : s.closed = false ∧ s.done = [] ∧ s.readCtx ≠ some id ∧ s.writeCtx ≠ some id := by
    simp only [s, run, List.foldl_append]
    refine List.foldlRecOn (motive := fun t => t.closed = false ∧ t.done = [] ∧ t.readCtx ≠ some id ∧ t.writeCtx ≠ some id)
      es step ?_ fun t ht e he => ?_
    · simp [step, init, settle, fires, isDone]
    obtain ⟨h1, h2, h3, h4⟩ := ht
    obtain ⟨e1, e2, e3, e4⟩ := hes e he
    cases e with
    | armRead c => simpa [step, h1, settle_eq, fires_done_nil, h2, h4] using fun h : c = some id => e1 (h ▸ rfl)
    | armWrite c => simpa [step, h1, settle_eq, fires_done_nil, h2, h3] using fun h : c = some id => e2 (h ▸ rfl)
    | cancel k => exact absurd rfl (e4 k)
    | connClosed => exact absurd rfl e3
  exact ⟨key.1, unarmed_cancel_harmless s id (fun _ => fires_done_nil s key.2.1) key.1 key.2.2.1 key.2.2.2⟩

/-- non-vacuity, and the counter-model: with ONE slot for both directions a read that is armed and
disarmed while a write is blocked makes the loop forget the write's deadline (the two-slot loop closes
the connection when the write's context ends, the one-slot loop does not). -/
example :
    let prog := [Ev.armWrite (some 1), .armRead (some 2), .armRead none, .cancel 1]
    (run prog init).closed = true ∧ (prog.foldl step1 ⟨none, [], false⟩).closed = false := by decide

end WS.Props.C10Timeout
