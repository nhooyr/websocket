import WS.Props.GuardsDefs
import WS.Proofs.GuardObs
/-
  The decision skeletons regenerated from read.go / write.go (WS/Gen/Guards.lean) against the models and
  against decision tables stated outright, on every valuation of their atoms.  Each theorem is closed by
  kernel evaluation over the whole (finite) domain, so it holds for whatever program the translator
  produced from the current sources: an equivalent re-writing of a condition passes, a change of meaning
  fails — and the failing valuation is found by `WS/GuardsCex.lean`, which `bin/check` runs over the same valuations.
-/
namespace WS.Props.Guards
open WS WS.Model WS.Model.Guard WS.Gen.Guards

/-- `Conn.readRSV1Illegal` as written now decides exactly what the reader model's `rsv1Illegal` decides. -/
theorem readRSV1Illegal_matches : ∀ flate : Bool, ∀ op : Fin 16,
    run (envRSV1 flate op.val) c_Conn_readRSV1Illegal
      = ⟨[], .ret (b2s (rsv1Illegal (rcfg false flate) (hdr true true false false false op.val)))⟩ := by
  decide +kernel

/-- `Conn.readLoop` as written now: for every combination of reserved bits, mask bit, opcode, role and
negotiated compression it rejects (with or without a Close frame), dispatches to handleControl, or returns
the data frame — exactly as `headerCheck` of the reader model (the subject of C03's theorems) says. -/
theorem readLoop_matches : ∀ rsv1 rsv2 rsv3 masked client flate ioErr closeStatus : Bool, ∀ op : Fin 16,
    run (envReadLoop rsv1 rsv2 rsv3 masked client flate ioErr closeStatus op.val) c_Conn_readLoop
      = readLoopExpected rsv1 rsv2 rsv3 masked client flate ioErr op.val := by
  decide +kernel

/-- the reader keeps its dictionary iff the *peer's* direction was not declared `no_context_takeover`. -/
theorem reader_takeover_matches : ∀ client cnct snct : Bool,
    run (envTakeover client cnct snct) c_msgReader_flateContextTakeover
      = ⟨[], .ret (b2s (readerTakeover client ⟨cnct, snct⟩))⟩ := by
  decide +kernel

/-- the writer keeps its dictionary iff its *own* direction was not declared `no_context_takeover`. -/
theorem writer_takeover_matches : ∀ client cnct snct : Bool,
    run (envTakeover client cnct snct) c_msgWriter_flateContextTakeover
      = ⟨[], .ret (b2s (writerTakeover client ⟨cnct, snct⟩))⟩ := by
  decide +kernel

/-- Before anything is armed or written, `writeFrame` takes the frame lock and refuses every frame other than
Ping / Pong once a Close frame was sent. -/
theorem writeFrame_guard : ∀ closeSent client flate fin lockErr staleRsv1 staleFin : Bool, ∀ op : Fin 16,
    run (envWriteFrame closeSent client flate fin lockErr staleRsv1 staleFin op.val false) c_Conn_writeFrame
      = writeFrameGuardExpected closeSent lockErr op.val := by
  decide +kernel

/-- `writeFrameEmissionExpected` with the header bits as data. -/
def writeFrameEmissionObs (client flate fin : Bool) (op : Nat) : ObsRes :=
  ⟨[⟨"writeFrameMu.lock", []⟩] ++ (if op = 8 then [⟨"set closeSent", []⟩] else []) ++
    [⟨"writeFrameHeader", [("writeHeader.fin", some fin), ("writeHeader.rsv1", some (flate && (op = 1 || op = 2))),
        ("writeHeader.masked", some client)]⟩, ⟨"writeFramePayload", []⟩]
    ++ (if fin then [⟨"bw.Flush", []⟩] else []), .ret "ok"⟩

theorem writeFrameHeader_label : ∀ fin rsv1 masked : Bool,
    Obs.label ⟨"writeFrameHeader", [("writeHeader.fin", some fin), ("writeHeader.rsv1", some rsv1), ("writeHeader.masked", some masked)]⟩
      = "writeFrameHeader[writeHeader.fin=" ++ b2s fin ++ ",writeHeader.rsv1=" ++ b2s rsv1 ++ ",writeHeader.masked=" ++ b2s masked ++ "]" := by
  decide +kernel

theorem writeFrame_emission_observed : ∀ client flate fin staleRsv1 staleFin : Bool, ∀ op : Fin 16,
    observe (envWriteFrame false client flate fin false staleRsv1 staleFin op.val true) c_Conn_writeFrame
      = writeFrameEmissionObs client flate fin op.val := by
  decide +kernel

/-- On the path where nothing fails, the frame is emitted by exactly these steps in this order; a Close frame
sets the latch *before* its header is written, in both roles; and the header goes out with FIN as asked, RSV1
exactly on the first frame of a compressed message and MASK exactly for a client — whatever the previous frame
left in the reused header (`staleRsv1`, `staleFin`). -/
theorem writeFrame_emission : ∀ client flate fin staleRsv1 staleFin : Bool, ∀ op : Fin 16,
    run (envWriteFrame false client flate fin false staleRsv1 staleFin op.val true) c_Conn_writeFrame
      = writeFrameEmissionExpected client flate fin op.val := by
  intro client flate fin staleRsv1 staleFin op
  -- the header bits are observed with the action; compared as strings they would cost ten times the rest of this evaluation
  rw [run_eq_render, writeFrame_emission_observed]
  simp only [writeFrameEmissionObs, writeFrameEmissionExpected, ObsRes.render, List.map_append, List.map_cons, List.map_nil,
    apply_ite (List.map Obs.label), writeFrameHeader_label]
  rfl

/-- `Conn.reader` (message sequencing, RFC 6455 §5.4): a new message is only started when the previous one was read to
its final frame, and a continuation frame that continues nothing is a protocol error answered with a Close frame. -/
theorem reader_sequencing : ∀ msgFin ioErr : Bool, ∀ op : Fin 16,
    run (envReader msgFin ioErr op.val) c_Conn_reader
      = readerExpected msgFin ioErr op.val := by
  decide +kernel

/-- `msgReader.read` when the current frame is used up: the message ends only after its final frame; otherwise
the next frame must be a continuation frame, anything else is a protocol error answered with a Close frame. -/
theorem msgReader_read_sequencing : ∀ fin flate client big : Bool, ∀ op : Fin 16,
    run (envMsgRead true fin flate client false big op.val) c_msgReader_read
      = msgReadExpected fin flate op.val := by
  decide +kernel

theorem msgWriter_write_decision : ∀ lockErr closed flateNeg flateOn big : Bool, ∀ op : Fin 16,
    run (envMsgWrite lockErr closed flateNeg flateOn big op.val) c_msgWriter_Write
      = msgWriteExpected lockErr closed flateNeg flateOn big op.val := by
  decide +kernel

theorem msgWriter_close_decision : ∀ lockErr closed flateOn takeover : Bool,
    run (envMsgClose lockErr closed flateOn takeover) c_msgWriter_Close
      = msgCloseExpected lockErr closed flateOn takeover := by
  decide +kernel

end WS.Props.Guards
