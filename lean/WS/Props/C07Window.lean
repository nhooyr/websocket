import WS.Model.Window
import WS.Proofs.Lists
/-
  C07 — sliding windows: whatever connections open, read, slide and close in whatever interleaving,
  and whatever sync.Pool decides to return, the dictionary a connection hands to its inflater holds
  only bytes that this connection received itself.
-/
namespace WS.Props.C07
open WS.Model.Window

def isFaulty : Op → Bool
  | .closeNoReset => true
  | _ => false

/-- every pooled window is empty; every held window holds only its holder's bytes. -/
def WInv (s : St) : Prop :=
  (∀ w ∈ s.pool, w = []) ∧ (∀ (i : Nat) (w : List Nat), s.held[i]? = some (some w) → ∀ b ∈ w, b = i)

theorem winv_init (cap : Nat) : WInv (init cap) := by simp [WInv, init]

theorem slide_own (cap : Nat) (w : List Nat) (i n : Nat) (h : ∀ b ∈ w, b = i) :
    ∀ b ∈ slide cap w i n, b = i := by
  intro b hb
  rcases List.mem_append.mp (List.mem_of_mem_drop hb) with h1 | h1
  · exact h b h1
  · exact (List.mem_replicate.mp h1).2

/-- connection `i` gets a window of its own bytes (or gives its window up); the pool holds empty windows. -/
theorem WInv.set {s : St} {i : Nat} {x : Option (List Nat)} (h : WInv s) (hi : s.held[i]? = some x)
    {v : Option (List Nat)} {pool' : List (List Nat)} (hp : ∀ w ∈ pool', w = [])
    (hv : ∀ w, v = some w → ∀ b ∈ w, b = i) : WInv { s with held := s.held.set i v, pool := pool' } := by
  refine ⟨hp, fun k w hk => ?_⟩
  simp only [List.getElem?_set_of_getElem? hi] at hk
  split at hk
  · subst k; exact hv w (by simpa using hk)
  · exact h.2 k w hk

theorem winv_step (s : St) (i : Nat) (op : Op) (hop : isFaulty op = false) (h : WInv s) : WInv (step s i op) := by
  cases op with
  | open_ =>
    refine ⟨h.1, fun k w hk => ?_⟩
    simp only [step, List.getElem?_append_singleton] at hk
    split at hk
    · cases hk
    · exact h.2 k w hk
  | start fromPool =>
    simp only [step]
    split
    · rename_i hi
      split
      · rename_i w rest hpool
        have hw : w = [] := h.1 w (by simp [hpool])
        exact h.set hi (fun x hx => h.1 x (by simp [hpool, hx])) (by simp [hw])
      · exact h.set hi h.1 (by simp)
    · exact h
  | write n =>
    simp only [step]
    split
    · rename_i w hi
      exact h.set hi h.1 fun v hv => by cases hv; exact slide_own _ _ _ _ (h.2 i w hi)
    · exact h
  | close =>
    simp only [step]
    split
    · rename_i hi
      exact h.set hi (by simpa using h.1) (by simp)
    · exact h
  | closeNoReset => cases hop

theorem winv_run (ops : List (Nat × Op)) : ∀ s, WInv s → (∀ o ∈ ops, isFaulty o.2 = false) → WInv (run s ops) := by
  induction ops with
  | nil => exact fun s h _ => h
  | cons o rest ih =>
    exact fun s h hf => ih _ (winv_step s o.1 o.2 (hf o (by simp)) h) fun o ho => hf o (by simp [ho])

theorem WInv.dict_own {s : St} (h : WInv s) (i : Nat) : ∀ b ∈ dict s i, b = i := by
  intro b hb
  unfold dict at hb
  split at hb
  · rename_i w hw; exact h.2 i w hw b hb
  · simp at hb

theorem WInv.first_dict_empty {s : St} (h : WInv s) {i : Nat} (hnew : s.held[i]? = some none) (fromPool : Bool) :
    dict (step s i (.start fromPool)) i = [] := by
  simp only [step, hnew]
  split
  · rename_i w rest hpool
    simp [dict, List.getElem?_set_of_getElem? hnew, h.1 w (by simp [hpool])]
  · simp [dict, List.getElem?_set_of_getElem? hnew]

/-- **the dictionary is the connection's own**: for every window size, every interleaving of opens,
message starts (with either answer of the pool), reads of any sizes and closes on any number of
connections, every byte of the dictionary a connection hands to its inflater was received by that
connection. -/
theorem dict_own (cap : Nat) (ops : List (Nat × Op)) (hf : ∀ o ∈ ops, isFaulty o.2 = false) (i : Nat) :
    ∀ b ∈ dict (run (init cap) ops) i, b = i :=
  (winv_run ops (init cap) (winv_init cap) hf).dict_own i

/-- a connection's first message starts from an empty dictionary, whatever other connections did before. -/
theorem first_dict_empty (cap : Nat) (ops : List (Nat × Op)) (hf : ∀ o ∈ ops, isFaulty o.2 = false)
    (i : Nat) (fromPool : Bool) (hnew : (run (init cap) ops).held[i]? = some none) :
    dict (step (run (init cap) ops) i (.start fromPool)) i = [] :=
  (winv_run ops (init cap) (winv_init cap) hf).first_dict_empty hnew fromPool

/-- the truncation in `slidingWindow.close` is what the invariant rests on: without it a later
connection inflates against another connection's bytes. -/
theorem unreset_window_leaks :
    dict (run (init 8) [(0, .open_), (0, .start false), (0, .write 5), (0, .closeNoReset),
                         (1, .open_), (1, .start true)]) 1 = [0, 0, 0, 0, 0] := by decide

/-- non-vacuity: the same history with the real `close`. -/
example : dict (run (init 8) [(0, .open_), (0, .start false), (0, .write 5), (0, .close),
    (1, .open_), (1, .start true), (1, .write 3), (0, .open_)]) 1 = [1, 1, 1] := by decide

end WS.Props.C07
