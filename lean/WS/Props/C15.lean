import WS.Props.C03
import WS.Proofs.ReaderInv
import WS.Props.C15Ping
/-
  C15 (receive side) — every Ping frame read is answered by a Pong with the identical payload, in
  order; Pongs provoke nothing.  (The Ping API's wait-for-own-pong matching is the registry model of
  WS/Model/Ping.lean: WS/Props/C15Ping.lean.)
-/
namespace WS.Props.C15
open WS WS.Model WS.Spec WS.Proofs.ReaderInv
open WS.Proofs.Reader (runReader_ping runReader_pong Quiet)

variable (inf : Inflate) (cfg : RCfg) (limits : List Int)

theorem ping_answered (st : RState) (f : Frame) (rest : List Frame) (tl : Tail)
    (hc : headerCheck cfg f.h = none) (ho : f.h.opcode = opPing) :
    runReader inf cfg limits st (f :: rest) tl = .reply opPong f.data :: runReader inf cfg limits st rest tl :=
  runReader_ping hc ho

theorem pong_ignored (st : RState) (f : Frame) (rest : List Frame) (tl : Tail)
    (hc : headerCheck cfg f.h = none) (ho : f.h.opcode = opPong) :
    runReader inf cfg limits st (f :: rest) tl = runReader inf cfg limits st rest tl :=
  runReader_pong hc ho

def pongPayload : Ev → Option Bytes
  | .reply op p => if op = opPong then some p else none
  | _ => none

/-- For **every** stream: the Pongs written are, in order, the payloads of the Ping frames read
before reading stopped — never a Pong without a Ping, never a different payload, never reordered. -/
theorem pongs_prefix_of_pings (st : RState) (fs : List Frame) (tl : Tail) :
    (runReader inf cfg limits st fs tl).filterMap pongPayload <+:
      (fs.filter (fun f => f.h.opcode == opPing)).map Frame.data := by
  refine runReader_induct inf cfg limits
    (fun fs out => out.filterMap pongPayload <+: (fs.filter (fun f => f.h.opcode == opPing)).map Frame.data)
    ?_ ?_ ?_ ?_ st fs tl
  · intro fs evs hs
    have : evs.filterMap pongPayload = [] := List.filterMap_eq_nil_iff.2 fun ev hev => by
      have := hs.1 ev hev
      cases ev <;> simp_all [Quiet, pongPayload, opClose, opPong]
    rw [this]
    exact List.nil_prefix
  · intro f fs r hp ih
    rw [List.filter_cons_of_pos (by simpa using hp)]
    exact (List.prefix_cons_inj _).2 ih
  · intro f fs r hp ih
    rwa [List.filter_cons_of_neg (by simpa using hp)]
  · intro f fs typ d r _ hd ih
    rw [List.filter_cons_of_neg (by rintro h; rw [eq_of_beq h] at hd; cases hd)]
    exact ih

/-- on a valid sequence every Ping — before, between or inside fragmented messages — is answered. -/
theorem valid_pongs_all (L : Int) (p : Pending) (fs : List Frame) :
    (specRun p fs).1.filterMap pongPayload = (fs.filter (fun f => f.h.opcode == opPing)).map Frame.data := by
  induction fs generalizing p with
  | nil => rfl
  | cons f fs ih =>
    simp only [specRun, List.filterMap_append, ih, List.filter_cons]
    by_cases hp : f.h.opcode = opPing
    · simp [specStep, hp, pongPayload]
    · have : (specStep p f).1.filterMap pongPayload = [] := by
        unfold specStep
        rw [if_neg hp]
        repeat' split
        all_goals rfl
      simp [this, hp]

end WS.Props.C15
