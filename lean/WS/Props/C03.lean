import WS.Spec.ReadSpec
import WS.Props.FrameCodec
import WS.Proofs.Reader
/-
  C03 — Inbound frame streams decode exactly; violations are rejected.
  Statements about `Model.runReader` / `Model.readStream` (the model of read.go tied to the
  implementation by the correspondence check) for every stream, configuration and inflater.
-/
namespace WS.Props.C03
open WS WS.Model WS.Spec WS.Props.FrameCodec
open WS.Proofs.Reader (runReader_bad runReader_data runReader_close dataStep_out_of_sequence
  quiet_not_msg stopIn_stopped)

variable (inf : Inflate) (cfg : RCfg) (limits : List Int)

/-- the code's header checks accept exactly the headers RFC 6455 allows. -/
theorem headerCheck_iff (h : Header) : headerCheck cfg h = none ↔ HeaderOK cfg h :=
  WS.Proofs.Reader.headerCheck_iff cfg h

/-- the first frame that violates a header rule stops reading … -/
theorem violation_stops (st : RState) (f : Frame) (rest : List Frame) (tl : Tail) (why : Stop)
    (h : headerCheck cfg f.h = some why) :
    runReader inf cfg limits st (f :: rest) tl = stopIn inf cfg limits st why :=
  runReader_bad h

/-- … and stopping never delivers a message: neither the violating frame's data nor anything
after it is handed out as a complete message. -/
theorem stopIn_no_msg (st : RState) (why : Stop) :
    ∀ ev ∈ stopIn inf cfg limits st why, isMsg ev = false :=
  fun ev hev => quiet_not_msg ((stopIn_stopped inf cfg limits st why).1 ev hev)

/-- a stop always reports a failure to the caller. -/
theorem stopIn_fails (st : RState) (why : Stop) :
    ∃ ev ∈ stopIn inf cfg limits st why, isFailure ev = true :=
  (stopIn_stopped inf cfg limits st why).2

/-- protocol violations and limit overruns are answered with the matching Close frame. -/
theorem stopIn_close_code (st : RState) :
    (.reply opClose (closePayload 1002 []) ∈ stopIn inf cfg limits st .proto) ∧
    (.reply opClose (closePayload 1009 []) ∈ stopIn inf cfg limits st .limit) := by
  unfold stopIn
  constructor <;> split <;> simp [stopReplies]

/-- continuation frame with no message in progress. -/
theorem cont_without_message (st : RState) (f : Frame) (rest : List Frame) (tl : Tail)
    (hm : st.mode = .idle) (hc : headerCheck cfg f.h = none) (ho : f.h.opcode = opCont) :
    runReader inf cfg limits st (f :: rest) tl = stopIn inf cfg limits st .proto := by
  rw [runReader_data hc (by rw [ho]; rfl), dataStep_out_of_sequence _ (by simp [hm, ho])]

/-- a new text/binary frame while a message is in progress. -/
theorem new_message_inside (st : RState) (f : Frame) (rest : List Frame) (tl : Tail)
    (hm : st.mode ≠ .idle) (hc : headerCheck cfg f.h = none)
    (ho : f.h.opcode = opText ∨ f.h.opcode = opBinary) :
    runReader inf cfg limits st (f :: rest) tl = stopIn inf cfg limits st .proto := by
  have hnc : f.h.opcode ≠ opCont := by rcases ho with h | h <;> rw [h] <;> decide
  rw [runReader_data hc (by rcases ho with h | h <;> rw [h] <;> rfl),
    dataStep_out_of_sequence _ (by simp [hm, hnc])]

/-- malformed Close payload. -/
theorem bad_close_payload (st : RState) (f : Frame) (rest : List Frame) (tl : Tail)
    (hc : headerCheck cfg f.h = none) (ho : f.h.opcode = opClose)
    (hp : parseClosePayload f.data = .bad) :
    runReader inf cfg limits st (f :: rest) tl = stopIn inf cfg limits st .proto := by
  rw [runReader_close hc ho, hp]

/-- a length with the top bit set is rejected. -/
theorem negative_length (st : RState) :
    runReader inf cfg limits st [] .negative = stopIn inf cfg limits st .protoNoClose := by
  rw [runReader]

/-- **valid streams decode exactly**: for every valid uncompressed frame sequence (any
fragmentation, empty fragments, control frames anywhere) whose messages fit the limit, the
reader produces exactly the reference events and continues from the reference state. -/
theorem valid_run (L : Int) (hL : cfg.limit = L) (p : Pending) (dict : Bytes) (idx : Nat)
    (fs : List Frame) (tl : Tail) (hv : ValidSeq cfg L p fs) :
    runReader inf cfg [] (stateOf L dict idx p) fs tl =
      (specRun p fs).1 ++
        runReader inf cfg [] (stateOf L dict (idx + (fs.filter (fun f => f.h.opcode == opText || f.h.opcode == opBinary)).length) (specRun p fs).2) [] tl :=
  WS.Proofs.Reader.valid_run inf cfg L hL p dict idx fs tl hv

/-- byte-level corollary: a well-formed valid stream decodes to the reference events, then the
read fails because the transport ended. -/
theorem valid_stream_decodes (L : Int) (hL : cfg.limit = L) (fs : List Frame)
    (hwf : ∀ f ∈ fs, Frame.WF f) (hv : ValidSeq cfg L none fs) :
    ∃ st, readStream inf cfg [] (encodeAll fs) = (specRun none fs).1 ++ stopIn inf cfg [] st .io :=
  WS.Proofs.Reader.valid_stream_decodes inf cfg L hL fs hwf hv

end WS.Props.C03
