import WS.Props.CIRCert.Lockset
import WS.Props.CIRCert.Frames
import WS.Props.CIRCert.Messages
import WS.Props.C05Mu
/-
  C05 — Concurrent use keeps frames atomic and messages unmixed.
  Statements about every reachable state of the connection skeleton `Gen.ConnCIR.prog` under the
  CIR semantics: any number of goroutines calling Reader/Read/Write/Writer/Ping/Close/CloseNow/
  CloseRead at any time, any interleaving. (Data-race freedom is a property of the Go memory model:
  it is measured with the race detector by the harness, not proved here.)
-/
namespace WS.Props.C05
open WS.CIR WS.Gen WS.Props.CIRCert

/-- **each frame is written atomically**: in every reachable state the pieces on the wire (header,
payload pieces, end of frame) form whole frames of single goroutines, one after another — possibly
followed by one unfinished frame whose writer is still at work or whose transport broke. -/
theorem frames_atomic (g : G) (hr : Reach ConnCIR.prog g) : Bracket.WellBracketed Specs.frameSpec g.wire :=
  Bracket.wellBracketed _ _ _ _ frames_ok g hr

/-- **frames of two data messages are never interleaved**: the data frames on the wire form whole
messages (first frame, continuations, final frame) of single goroutines, one after another; control
frames may appear anywhere between frames. -/
theorem messages_unmixed (g : G) (hr : Reach ConnCIR.prog g) : Bracket.WellBracketed Specs.msgSpec g.wire :=
  Bracket.wellBracketed _ _ _ _ messages_ok g hr

/-- while the transport works, the unfinished frame (if any) belongs to exactly the goroutine that
is inside `writeFrame` between header and end of frame. -/
theorem open_frame_owner (g : G) (hr : Reach ConnCIR.prog g) :
    ∃ st, Bracket.scan Specs.frameSpec g.wire (some none) = some st ∧
      (g.broken = false → ∀ t, st = some t ↔ ∃ n, g.pcs[t]? = some n ∧ Bracket.isOpen ConnCIR.frameOpen n = true) :=
  Bracket.sound _ _ _ _ frames_ok g hr

/-- the certificate's lock claims are true in every reachable state … -/
theorem locks_held (g : G) (hr : Reach ConnCIR.prog g) : Lockset.LInv ConnCIR.lockCert g :=
  Lockset.sound _ _ lockset_ok g hr

/-- … hence two goroutines are never both inside sections that require the same channel mutex
(readMu, writeFrameMu, msgWriter.mu, msgWriter.writeMu). -/
theorem mutual_exclusion (g : G) (hr : Reach ConnCIR.prog g) (t1 t2 n1 n2 m : Nat)
    (h1 : g.pcs[t1]? = some n1) (h2 : g.pcs[t2]? = some n2)
    (m1 : m ∈ Lockset.held ConnCIR.lockCert n1) (m2 : m ∈ Lockset.held ConnCIR.lockCert n2) : t1 = t2 :=
  Lockset.exclusive _ _ lockset_ok g hr t1 t2 n1 n2 m h1 h2 m1 m2

/-- every transport write happens under writeFrameMu (decidable fact about the skeleton). -/
theorem writes_under_writeFrameMu :
    (List.range ConnCIR.prog.code.length).all (fun n =>
      match ConnCIR.prog.at n with
      | .wr _ _ _ => (Lockset.held ConnCIR.lockCert n).contains Specs.lWriteFrameMu
      | _ => true) = true := by
  unfold Prog.at Lockset.held
  simp only [Table.getD_eq_get]
  decide +kernel

/-- the wire is an append-only log, so each writer's frames appear in the order it wrote them. -/
theorem wire_append_only (g g' : G) (h : Step ConnCIR.prog g g') : g.wire <+: g'.wire :=
  wire_prefix _ g g' h

end WS.Props.C05
