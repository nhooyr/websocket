import WS.Props.C03
import WS.Proofs.ReaderInv
/-
  C04 — No silent truncation.
-/
namespace WS.Props.C04
open WS WS.Model WS.Spec WS.Props.FrameCodec WS.Proofs.ReaderInv
open WS.Proofs.FrameCodec (xorKeyFrom_take)
open WS.Proofs.Reader (quiet_not_msg headerCheck_iff isControl_iff dataStep_stateOf stopIn_stateOf_io Fits.take
  runReader_nil_clean readStream_of_parse)

variable (inf : Inflate) (cfg : RCfg) (limits : List Int)

/-- For **every** stream (valid or not, compressed or not, any limits): each clean end of a message
is backed by a completely received data frame with FIN set. -/
theorem msgs_le_fins (st : RState) (fs : List Frame) (tl : Tail) :
    ((runReader inf cfg limits st fs tl).filter isMsg).length ≤
      (fs.filter (fun f => f.h.fin && isData f.h.opcode)).length := by
  refine runReader_induct inf cfg limits
    (fun fs out => (out.filter isMsg).length ≤ (fs.filter (fun f => f.h.fin && isData f.h.opcode)).length)
    ?_ ?_ ?_ ?_ st fs tl
  · intro fs evs hs
    rw [List.filter_eq_nil_iff.2 fun ev hev => by simp [quiet_not_msg (hs.1 ev hev)]]
    exact Nat.zero_le _
  · intro f fs r _ ih
    exact Nat.le_trans ih ((List.sublist_cons_self f fs).filter _).length_le
  · intro f fs r _ ih
    exact Nat.le_trans ih ((List.sublist_cons_self f fs).filter _).length_le
  · intro f fs typ d r hfin hd ih
    simpa [List.filter_cons, hfin, hd, isMsg] using ih

/-- whatever is left after the last complete frame never completes a message, and reading it fails. -/
theorem tail_never_completes (st : RState) (tl : Tail) :
    (∀ ev ∈ runReader inf cfg limits st [] tl, isMsg ev = false) ∧
    (∃ ev ∈ runReader inf cfg limits st [] tl, isFailure ev = true) := by
  have hs := runReader_nil_stopped inf cfg limits st tl
  exact ⟨fun ev hev => quiet_not_msg (hs.1 ev hev), hs.2⟩

/-- unmasking commutes with taking a prefix: the bytes available before a cut unmask to a prefix
of the frame's data. -/
theorem data_prefix (f : Frame) (k : Nat) :
    (if f.h.masked then xorKey f.h.key (f.payload.take k) else f.payload.take k) = f.data.take k := by
  unfold Frame.data
  split
  · exact xorKeyFrom_take ..
  · rfl

/-- how reading ends at a cut inside frame `f` with `q` pending: no message was being read, or a
prefix of the message's payload has been handed out. -/
def CutEnd (q : Pending) (f : Frame) (final : Ev) : Prop :=
  final = .fail .io ∨
    ∃ typ avail, final = .partialMsg typ avail .io false ∧
      ∃ full, avail <+: full ∧
        (match q with
         | none => full = f.data
         | some (_, acc) => full = acc ++ f.data)

/-- reading what the cut leaves of frame `f`, in the reference state. -/
theorem cut_tail_run (L : Int) (hL : cfg.limit = L) (dict : Bytes) (idx : Nat) (q : Pending)
    (f : Frame) (post : List Frame) (m : Nat) (hv : ValidSeq cfg L q (f :: post)) :
    ∃ final, runReader inf cfg [] (stateOf L dict idx q) [] (cutTail f m) = [final] ∧ CutEnd q f final := by
  obtain ⟨hok, hr1, -, hfit, -⟩ := hv
  have hc := (headerCheck_iff cfg f.h).2 hok
  -- nothing of `f` is taken in: the failure reports what was pending
  have hstop : ∃ final, stopIn inf cfg [] (stateOf L dict idx q) .io = [final] ∧ CutEnd q f final := by
    refine ⟨_, stopIn_stateOf_io .., ?_⟩
    match q with
    | none => exact .inl rfl
    | some (typ, acc) => exact .inr ⟨typ, acc, rfl, _, List.prefix_append _ _, rfl⟩
  unfold cutTail
  split
  · rw [runReader]; exact hstop
  · rw [runReader, hc]
    dsimp only
    split
    · exact hstop
    · next hctl =>
      -- a data frame: the bytes before the cut are taken in, a prefix of its data
      have hle : f.h.opcode ≤ 2 := by
        have := hok.2.2.2.2.1
        have := (not_congr (isControl_iff _)).1 hctl
        omega
      rw [data_prefix, dataStep_stateOf inf cfg L hL dict idx q f.h _ hr1 (Fits.take (hfit hle) _)]
      dsimp only
      rw [stopIn_stateOf_io]
      refine ⟨_, rfl, .inr ⟨_, _, rfl, ?_⟩⟩
      match q with
      | none => exact ⟨_, List.take_prefix _ _, rfl⟩
      | some (_, acc) => exact ⟨_, (List.prefix_append_right_inj acc).2 (List.take_prefix _ _), rfl⟩

/-- **cut inside a valid uncompressed stream**: the stream `pre ++ [f] ++ post` is cut after `m`
bytes of frame `f`.  Every message completed by `pre` is delivered intact (the reference events of
`pre`), then reading fails, and the bytes handed out for the message in progress are a prefix of
that message's payload. -/
theorem cut_valid_stream (L : Int) (hL : cfg.limit = L) (pre post : List Frame) (f : Frame) (m : Nat)
    (hwf : ∀ g ∈ pre ++ f :: post, Frame.WF g) (hv : ValidSeq cfg L none (pre ++ f :: post))
    (hm0 : 0 < m) (hm : m < (encodeFrame f).length) :
    ∃ final, readStream inf cfg [] (encodeAll pre ++ (encodeFrame f).take m) = (specRun none pre).1 ++ [final] ∧
      (final = .fail .io ∨
        ∃ typ avail, final = .partialMsg typ avail .io false ∧
          ∃ full, avail <+: full ∧
            (match (specRun none pre).2 with
             | none => full = f.data
             | some (_, acc) => full = acc ++ f.data)) := by
  have hwfpre : ∀ g ∈ pre, Frame.WF g := fun g hg => hwf g (List.mem_append_left _ hg)
  have hwff : Frame.WF f := hwf f (by simp)
  obtain ⟨hvpre, hvf⟩ := validSeq_append cfg L none pre (f :: post) hv
  have hrun := WS.Props.C03.valid_run inf cfg L hL none [] 0 pre (cutTail f m) hvpre
  obtain ⟨final, hfinal, hprop⟩ := cut_tail_run inf cfg L hL []
    (0 + (pre.filter (fun f => f.h.opcode == opText || f.h.opcode == opBinary)).length)
    (specRun none pre).2 f post m hvf
  refine ⟨final, ?_, hprop⟩
  rw [readStream_of_parse (parse_cut pre f m hwfpre hwff hm0 hm), ← hfinal]
  exact hrun

/-- cut exactly at a frame boundary. -/
theorem cut_at_boundary (L : Int) (hL : cfg.limit = L) (pre post : List Frame)
    (hwf : ∀ g ∈ pre ++ post, Frame.WF g) (hv : ValidSeq cfg L none (pre ++ post)) :
    ∃ final, readStream inf cfg [] (encodeAll pre) = (specRun none pre).1 ++ [final] ∧
      (final = .fail .io ∨ ∃ typ acc, final = .partialMsg typ acc .io false ∧ (specRun none pre).2 = some (typ, acc)) := by
  have hwfpre : ∀ g ∈ pre, Frame.WF g := fun g hg => hwf g (List.mem_append_left _ hg)
  obtain ⟨hvpre, _⟩ := validSeq_append cfg L none pre post hv
  have hrun := WS.Props.C03.valid_run inf cfg L hL none [] 0 pre .clean hvpre
  rw [runReader_nil_clean, stopIn_stateOf_io] at hrun
  rw [readStream_of_parse (parse_encodeAll pre hwfpre)]
  refine ⟨_, hrun, ?_⟩
  rcases (specRun none pre).2 with _ | ⟨typ, acc⟩
  · exact .inl rfl
  · exact .inr ⟨typ, acc, rfl, rfl⟩

end WS.Props.C04
