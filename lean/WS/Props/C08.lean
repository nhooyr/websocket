import WS.Props.C03
import WS.Gen.Facts
import WS.Proofs.ReaderInv
/-
  C08 — Read limit.  (Memory bounds are measured by the harness: a theorem cannot see the allocator.)
-/
namespace WS.Props.C08
open WS WS.Model WS.Spec WS.Proofs.ReaderInv
open WS.Proofs.Reader (takeLimited_cases specStep_data feed)

variable (inf : Inflate) (cfg : RCfg)

/-- the limit reader hands out a prefix, never more than the allowance, and reports the limit
exactly when the allowance is used up. -/
theorem takeLimited_spec (n : Int) (d : Bytes) :
    (takeLimited n d).1 <+: d ∧
    (0 ≤ n → ((takeLimited n d).1.length : Int) ≤ n) ∧
    ((takeLimited n d).2.2 = true ↔ (0 ≤ n ∧ n ≤ d.length)) ∧
    ((takeLimited n d).2.2 = false → (takeLimited n d).1 = d ∧ (0 ≤ n → (takeLimited n d).2.1 = n - d.length)) := by
  rcases takeLimited_cases n d with ⟨hn, e⟩ | ⟨hn, hlt, e⟩ | ⟨hn, hge, e⟩ <;> rw [e] <;> dsimp only
  · exact ⟨List.prefix_refl _, by omega, ⟨nofun, by omega⟩, fun _ => ⟨rfl, by omega⟩⟩
  · exact ⟨List.prefix_refl _, by omega, ⟨nofun, by omega⟩, fun _ => ⟨rfl, fun _ => rfl⟩⟩
  · exact ⟨List.take_prefix _ _, by simp only [List.length_take]; omega, ⟨fun _ => ⟨hn, hge⟩, fun _ => rfl⟩, nofun⟩

/-- **over-limit messages are never reported complete**: with read limit `L ≥ 0`, for every
inbound stream whatsoever (any fragmentation, compressed or not, any inflater), every message
reported complete has at most `L` bytes and every failing read has handed out at most `L + 1`. -/
theorem limit_respected (L : Nat) (hL : cfg.limit = L) (fs : List Frame) (tl : Tail) :
    ∀ ev ∈ runReader inf cfg [] initR fs tl,
      (∀ typ d, ev = .msg typ d → d.length ≤ L) ∧
      (∀ typ d why amb, ev = .partialMsg typ d why amb → d.length ≤ L + 1) := by
  intro ev hev
  have ha : allowance cfg.limit = L + 1 := by rw [hL, allowance, if_neg (by omega)]
  have := lim_run inf cfg ha fs initR tl nofun ev hev
  constructor
  · rintro typ d rfl
    simp only [LimEv] at this; omega
  · rintro typ d why amb rfl
    have := this.2; omega

/-- hitting the limit is reported with a Close frame carrying status 1009. -/
theorem limit_close_1009 (limits : List Int) (st : RState) :
    .reply opClose (closePayload 1009 []) ∈ stopIn inf cfg limits st .limit :=
  (WS.Props.C03.stopIn_close_code inf cfg limits st).2

/-- messages within the limit are delivered in full: this is `C03.valid_run`, whose validity
hypothesis asks each message to fit `L`. Restated for a single unfragmented message of exactly `L` bytes. -/
theorem exactly_limit_delivered (L : Nat) (hL : cfg.limit = L) (f : Frame) (tl : Tail)
    (hv : ValidSeq cfg L none [f]) (hfin : f.h.fin = true) (hop : f.h.opcode = opText ∨ f.h.opcode = opBinary) :
    runReader inf cfg [] initR [f] tl = .msg f.h.opcode f.data :: runReader inf cfg [] { initR with idx := 1 } [] tl := by
  have h : isData f.h.opcode = true ∧ (f.h.opcode == opText || f.h.opcode == opBinary) = true := by
    rcases hop with h | h <;> rw [h] <;> decide
  have hvr := WS.Props.C03.valid_run inf cfg (L : Int) hL none [] 0 [f] tl hv
  simp [specRun, specStep_data none f h.1, hfin, feed, h.2] at hvr
  exact hvr

/-- unlimited (`SetReadLimit(-1)`): no stream ever triggers the limit stop. -/
theorem unlimited_never_limits (hL : cfg.limit < 0) (fs : List Frame) (tl : Tail) :
    ∀ ev ∈ runReader inf cfg [] initR fs tl,
      (∀ typ d amb, ev ≠ .partialMsg typ d .limit amb) ∧ ev ≠ .fail .limit := by
  intro ev hev
  have ha : allowance cfg.limit = -1 := by rw [allowance, if_pos hL]
  have := lim_run inf cfg ha fs initR tl nofun ev hev
  constructor
  · rintro typ d amb rfl
    exact absurd (this.1 rfl) (by decide)
  · rintro rfl
    exact this rfl

/-- per-run obligation (regenerated facts): the default limit is 32768, the limit reader is created
with `defaultReadLimit + 1` (that `SetReadLimit` stores `n + 1` for `n ≥ 0` and `n` otherwise —
`Model.allowance` — is tied by the correspondence check over limits and limit changes). -/
theorem facts :
    WS.Gen.Facts.c_defaultReadLimit = 32768 ∧
    WS.Gen.Facts.l_newMsgReader_limit = "defaultReadLimit + 1" := by
  decide

end WS.Props.C08
