import WS.Props.CIRCert.CloseSent
/-
  C16 — Nothing follows a Close frame.
-/
namespace WS.Props.C16
open WS.CIR WS.Gen WS.Props.CIRCert

/-- **in every reachable state of the connection skeleton** — whichever goroutines are still
writing, whoever initiated the close (local Close, echo of the peer's Close, or a Close written
because of a protocol error, the read limit or a CloseRead policy violation: all go through
`writeClose`/`writeFrame`) — no data frame and no second Close frame begins after a Close frame. -/
theorem nothing_after_close (g : G) (hr : Reach ConnCIR.prog g) :
    CloseSent.NothingAfterClose Specs.closeSpec g.wire = true :=
  CloseSent.nothing_after_close _ _ _ _ closesent_ok g hr

/-- every frame header is written by `writeFrame`, which tests `closeSent` under writeFrameMu first
(for data and close frames): the only `wr` nodes are those of the writeFrame template, all under the lock. -/
theorem single_emission_point :
    (List.range ConnCIR.prog.code.length).all (fun n =>
      match ConnCIR.prog.at n with
      | .wr k _ _ =>
        (Lockset.held ConnCIR.lockCert n).contains Specs.lWriteFrameMu &&
        (Specs.closeSpec.piece k == .other || CloseSent.know ConnCIR.closeKnow n != .unknown)
      | _ => true) = true := by
  unfold Prog.at Lockset.held CloseSent.know
  simp only [Table.getD_eq_get]
  decide +kernel

end WS.Props.C16
