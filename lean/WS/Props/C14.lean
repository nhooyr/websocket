import WS.Props.Handshake
/-
  C14 — permessage-deflate is negotiated soundly and both ends agree on its parameters.
  Statements about the model of selectDeflate / acceptDeflate / compressionOptions.String /
  verifyServerExtensions and the per-direction takeover selectors.
-/
namespace WS.Props.C14
open WS WS.Model WS.Proofs.Negotiation WS.Proofs.HandshakeE2E

/- `pCNCT`, `pSNCT`, `pmd`, `paramOK`, `OfferOK` are defined (in this namespace) in
   WS/Props/HandshakeDefs.lean, which the helper lemmas need too. -/

/-- **server soundness, one offer**: an offer is accepted iff it is honourable, and then the options
are the server mode's own plus exactly the flags the offer asks for — in particular
`server_no_context_takeover` is adopted (and echoed, see `response_strings`) whenever it is offered. -/
theorem acceptDeflate_iff (ext : Ext) (mode : Nat) (c : Copts) :
    acceptDeflate ext mode = some c ↔
      OfferOK ext.params ∧
      c = { cnct := (mode == 2) || ext.params.contains pCNCT, snct := (mode == 2) || ext.params.contains pSNCT } := by
  unfold acceptDeflate
  rw [acceptDeflate_go_iff]
  simp only [AcceptDeflateSpec, modeOpts, List.not_mem_nil, not_false_eq_true, implies_true, true_and]

/-- **fallback**: the server takes the first permessage-deflate offer it can honour, skipping other
extensions and declined offers; with compression disabled it takes none. -/
theorem selectDeflate_spec (exts : List Ext) (mode : Nat) :
    selectDeflate exts mode =
      if mode = 0 then none
      else (exts.filter (fun e => e.name == pmd)).findSome? (fun e => acceptDeflate e mode) := by
  simp [selectDeflate, selectDeflate_go_eq]

/-- the response never carries a parameter a client may not receive: it is one of four strings. -/
theorem response_strings (c : Copts) :
    coptsString c = s "permessage-deflate" ∨
    coptsString c = s "permessage-deflate; client_no_context_takeover" ∨
    coptsString c = s "permessage-deflate; server_no_context_takeover" ∨
    coptsString c = s "permessage-deflate; client_no_context_takeover; server_no_context_takeover" := by
  rcases c with ⟨_ | _, _ | _⟩ <;> simp [coptsString, s_append]

def extHdr (v : Str) : Hdr := [(s "Sec-Websocket-Extensions", [v])]

/-- a client that offered `c0` and reads the server's rendering of `c` ends with the server's flags:
`server_no_context_takeover` exactly as the response says, `client_no_context_takeover` if either side wants it. -/
theorem response_understood (c0 c : Copts) :
    verifyServerExtensions (some c0) (extHdr (coptsString c)) =
      .ok (some { cnct := c0.cnct || c.cnct, snct := c.snct }) :=
  verify_rendered c0 (by simp [extHdr, values_cons, values_nil])

/-- **client soundness**: whatever response a client accepts consists of exactly one
permessage-deflate extension whose parameters are ones it can honour, and the options it adopts are
what that response means: the server drops its context iff the response says so. -/
theorem client_sound (c0 c : Copts) (h : Hdr) (hv : verifyServerExtensions (some c0) h = .ok (some c)) :
    ∃ ext, websocketExtensions h = [ext] ∧ ext.name = pmd ∧
      (∀ p ∈ ext.params, p = pCNCT ∨ p = pSNCT ∨ hasPrefix (s "server_max_window_bits=") p = true) ∧
      c.snct = ext.params.contains pSNCT ∧ c.cnct = (c0.cnct || ext.params.contains pCNCT) := by
  unfold verifyServerExtensions at hv
  split at hv
  · simp at hv
  · rename_i ext hext
    refine ⟨ext, hext, ?_⟩
    simp only at hv
    split at hv
    · simp at hv
    · rename_i hn
      have hname : ext.name = pmd := by simpa [pmd] using hn
      rw [verifyServerExtensions_go_iff] at hv
      obtain ⟨hall, rfl⟩ := hv
      exact ⟨hname, hall, by simp, rfl⟩
  · simp at hv

/-- with compression off (nothing offered) any extension in the response is rejected. -/
theorem client_no_offer (h : Hdr) (r : Option Copts) (hv : verifyServerExtensions none h = .ok r) :
    r = none ∧ websocketExtensions h = [] :=
  verify_no_offer hv

/-- no extension header means no compression, whatever was offered. -/
theorem client_no_extension (c0 : Option Copts) (h : Hdr) (he : websocketExtensions h = []) :
    verifyServerExtensions c0 h = .ok none :=
  verify_no_extension c0 he

/-- the handshake between two library endpoints in modes `cm` (client) and `sm` (server). -/
def libHandshake (cm sm : Nat) : Option Copts × VerifyExt :=
  let offer : Hdr := if cm == 0 then [] else extHdr (coptsString (modeOpts cm))
  let srv := selectDeflate (websocketExtensions offer) sm
  let resp : Hdr := match srv with
    | some c => extHdr (coptsString c)
    | none => []
  (srv, verifyServerExtensions (if cm == 0 then none else some (modeOpts cm)) resp)

/-- **library to library, all 3×3 modes**: compression is on iff both enabled it, and both endpoints
hold the same options. -/
theorem lib_to_lib_agree :
    ∀ cm ∈ [0, 1, 2], ∀ sm ∈ [0, 1, 2],
      (libHandshake cm sm).2 = .ok (libHandshake cm sm).1 ∧
      ((libHandshake cm sm).1.isSome = (cm != 0 && sm != 0)) := by
  decide +kernel

/-- **directions are consistent**: what one endpoint does when writing is what its peer assumes when
reading, for every agreed option pair (including asymmetric ones) and both roles. -/
theorem directions_consistent (client : Bool) (c : Copts) :
    writerTakeover client c = readerTakeover (!client) c := by
  cases client <;> simp [writerTakeover, readerTakeover]

end WS.Props.C14
