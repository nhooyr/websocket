import WS.Proofs.Mask
import WS.Gen.MaskProg
/-
  C17 — Masking is an exact, chunk-composable XOR for every length, alignment and key.

  `Spec.mask` is the definition in the property ("XOR byte i with key byte i mod 4, return
  the key rotated").  `Gen.maskGo` is regenerated from /repo/mask.go on every run.
-/
namespace WS.Props.C17
open WS WS.Model WS.Spec WS.Proofs.Mask

/-- byte `i` of the output is byte `i` of the input XOR key byte `i mod 4` — the spec really is
the pointwise definition. -/
theorem mask_pointwise (key : UInt32) (b : Bytes) (i : Nat) :
    (mask key b).1[i]? = (b[i]?).map (fun x => x ^^^ keyByte key (i % 4)) := by
  unfold mask
  rw [maskFrom_getElem?, Nat.zero_add, keyByte_mod]

theorem mask_length (key : UInt32) (b : Bytes) : (mask key b).1.length = b.length :=
  maskFrom_length key 0 b

/-- Every well-formed mask program (any unrolling, any thresholds) computes the specification
for **every** buffer and key, and never indexes outside the buffer (`some`). -/
theorem wf_correct (p : MaskProg) (hwf : wellFormed p = true) (b : Bytes) (key : UInt32) :
    runMask p b key = some (mask key b) :=
  WS.Proofs.Mask.wf_correct p hwf b key

/-- Per-run obligation: the program regenerated from the current `mask.go` is well formed,
hence `maskGo` equals the specification for every length and key. -/
theorem maskGo_correct (b : Bytes) (key : UInt32) :
    runMask WS.Gen.maskGo b key = some (mask key b) :=
  wf_correct _ (by decide) b key

/-- Chunk composability: masking `a ++ b` whole equals masking `a`, then `b` with the returned key. -/
theorem mask_append (key : UInt32) (a b : Bytes) :
    mask key (a ++ b) = ((mask key a).1 ++ (mask (mask key a).2 b).1, (mask (mask key a).2 b).2) := by
  unfold mask
  simp only [List.length_append]
  congr 1
  · rw [maskFrom_append, maskFrom_rotrBytes]
    congr 1
    apply maskFrom_congr_mod
    omega
  · rw [rotrBytes_add]
    exact rotrBytes_congr key (by omega)

/-- masking in any number of consecutive pieces of any sizes. -/
def maskPieces (key : UInt32) : List Bytes → Bytes × UInt32
  | [] => ([], key)
  | p :: ps =>
    let r := mask key p
    let r' := maskPieces r.2 ps
    (r.1 ++ r'.1, r'.2)

theorem mask_pieces (key : UInt32) (ps : List Bytes) : maskPieces key ps = mask key ps.flatten := by
  induction ps generalizing key with
  | nil => rfl
  | cons p ps ih =>
    simp only [maskPieces, List.flatten_cons, ih, mask_append]

/-- masking twice with the same key restores the buffer (unmasking = masking). -/
theorem mask_involutive (key : UInt32) (b : Bytes) : (mask key (mask key b).1).1 = b :=
  maskFrom_involutive key 0 b

/-- after a multiple of four bytes the key is unchanged. -/
theorem mask_key_period (key : UInt32) (b : Bytes) (h : b.length % 4 = 0) : (mask key b).2 = key := by
  unfold mask; rw [h]; rfl

-- a 5-byte vector of the shape of Test_mask's in /repo/frame_test.go (other values): one byte more than the
-- key's period, so the key comes back rotated by one byte
example : (mask 0x04030201 [0x10, 0x20, 0x30, 0x40, 0x50]).1 = [0x11, 0x22, 0x33, 0x44, 0x51] := by decide
example : (mask 0x04030201 [0x10, 0x20, 0x30, 0x40, 0x50]).2 = 0x01040302 := by decide

end WS.Props.C17
