import WS.Model.Frame
import WS.Proofs.FrameCodec
/-
  Frame codec theorems shared by C01–C04: `decodeHeader`/`parseFrames` (readFrameHeader) invert
  `encodeHeader`/`encodeFrame` (writeFrameHeader) for every header the protocol allows, the
  length encoding is minimal, and a byte stream cut at any offset parses to the complete
  frames before the cut plus a tail describing the frame that contains the cut.
-/
namespace WS.Props.FrameCodec
open WS WS.Model

-- `Header.WF`, `Frame.WF`, `encodeAll`, `cutTail` are defined (in this namespace) in WS/Props/FrameCodecDefs.lean

/-- readFrameHeader ∘ writeFrameHeader = id, with any bytes following. -/
theorem decode_encode (h : Header) (hwf : Header.WF h) (rest : Bytes) :
    decodeHeader (encodeHeader h ++ rest) = .ok h rest :=
  WS.Proofs.FrameCodec.decode_encode h hwf rest

/-- the length class is the minimal one (RFC 6455 §5.2). -/
theorem encode_length (h : Header) :
    (encodeHeader h).length =
      2 + (if h.len ≤ 125 then 0 else if h.len ≤ 65535 then 2 else 8) + (if h.masked then (h.key.take 4).length else 0) :=
  WS.Proofs.FrameCodec.encode_length h

/-- the 7-bit length field is 126 / 127 exactly when the length does not fit the smaller class. -/
theorem encode_len7 (h : Header) (hl : h.len < 2 ^ 63) :
    ∃ b0 b1 r, encodeHeader h = b0 :: b1 :: r ∧
      (b1.toNat % 128 = 127 ↔ 65535 < h.len) ∧ (b1.toNat % 128 = 126 ↔ (125 < h.len ∧ h.len ≤ 65535)) ∧
      (b1.toNat % 128 < 126 → b1.toNat % 128 = h.len) ∧ (b1.toNat ≥ 128 ↔ h.masked = true) :=
  WS.Proofs.FrameCodec.encode_len7 h

/-- a concatenation of well-formed frames parses back to exactly those frames. -/
theorem parse_encodeAll (fs : List Frame) (hwf : ∀ f ∈ fs, Frame.WF f) :
    parseFrames (encodeAll fs) = (fs, .clean) :=
  WS.Proofs.FrameCodec.parse_encodeAll fs hwf

/-- cutting the stream inside frame `f` (after the complete frames `pre`) yields exactly `pre`
and a tail that is either a short header or the available prefix of `f`'s payload. -/
theorem parse_cut (pre : List Frame) (f : Frame) (m : Nat)
    (hpre : ∀ g ∈ pre, Frame.WF g) (hf : Frame.WF f) (hm0 : 0 < m) (hm : m < (encodeFrame f).length) :
    parseFrames (encodeAll pre ++ (encodeFrame f).take m) = (pre, cutTail f m) :=
  WS.Proofs.FrameCodec.parse_cut pre f m hpre hf hm0 hm

end WS.Props.FrameCodec
