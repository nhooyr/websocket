import WS.Model.Mu
/-
  C05 (and C07, C10) rest on the connection's channel mutexes: the CIR semantics treats `lock` /
  `unlock` as atomic primitives of a mutex. These theorems are about the implementation of that
  primitive (`WS.Model.Mu`, tied to `conn.go`'s `mu` by running both on the same operation programs):
  for **every** pick the runtime may make in `lock`'s `select`s, for every state, for every
  interleaving of any number of goroutines that respect the discipline "only the holder unlocks"
  (which is what the CIR lockset certificate proves of the callers).
-/
namespace WS.Props.C05Mu
open WS.Model.Mu

/-- `lock`'s truth table (3 picks × 2³ flags): it returns nil exactly when the send case fired on a free lock
of an open connection; then the lock is held, and in every other case the channel is exactly as it was. -/
theorem lock_spec (s : St) (d : Bool) (p : Pick) :
    ((lock s d p).2 = .ok ↔ (p = .sendCase ∧ s.full = false ∧ s.closed = false)) ∧
    (lock s d p).1 = if (lock s d p).2 = .ok then { s with full := true } else s := by
  obtain ⟨f, c⟩ := s
  cases p <;> cases f <;> cases c <;> cases d <;> decide

/-- **a lock attempt that fails changes nothing**: whatever case the runtime picks, when `lock` returns
an error (or does not return) the channel is exactly as it was — in particular a lock held by another
goroutine stays held, and a free lock stays free. -/
theorem failed_lock_changes_nothing (s : St) (d : Bool) (p : Pick) (h : (lock s d p).2 ≠ .ok) :
    (lock s d p).1 = s := by
  rw [(lock_spec s d p).2, if_neg h]

theorem lock_ok_iff (s : St) (d : Bool) (p : Pick) :
    (lock s d p).2 = .ok ↔ (p = .sendCase ∧ s.full = false ∧ s.closed = false) :=
  (lock_spec s d p).1

/-- on a closed connection no lock attempt succeeds, whatever is picked. -/
theorem closed_never_ok (s : St) (d : Bool) (p : Pick) (hc : s.closed = true) : (lock s d p).2 ≠ .ok := by
  simp [lock_ok_iff, hc]

/-- `lock` can only keep its caller waiting while the lock is held, the connection open and the
caller's context live: as soon as the context is done or the connection closed, some case is ready. -/
theorem blocks_only_while (s : St) (d : Bool) :
    picks s d = [] ↔ (s.full = true ∧ s.closed = false ∧ d = false) := by
  simp [picks, ready, and_assoc, and_comm, and_left_comm]

/-- a pick outside `picks` leaves the call blocked with nothing changed. -/
theorem not_ready_blocked (s : St) (d : Bool) (p : Pick) (h : ready s d p = false) : lock s d p = (s, .blocked) := by
  unfold lock; simp [h]

/-- `tryLock` succeeds exactly on a free lock; failing it changes nothing. -/
theorem tryLock_spec (s : St) :
    ((tryLock s).2 = true ↔ s.full = false) ∧ ((tryLock s).2 = false → (tryLock s).1 = s) := by
  unfold tryLock; cases hs : s.full <;> simp

/-- the channel holds a token exactly when some goroutine owns the lock. -/
def OInv (o : Owned) : Prop := o.s.full = true ↔ o.owner.isSome = true

/-- what an operation does to the token and its ghost owner: a successful acquisition (only of a free lock),
an unlock, or nothing. -/
theorem stepO_cases (o : Owned) (op : Op) :
    (o.s.full = false ∧ (stepO o op).s.full = true ∧ (stepO o op).owner.isSome = true) ∨
    ((∃ t, op = .unlock t) ∧ (stepO o op).s.full = false ∧ (stepO o op).owner = none) ∨
    ((∀ t, op ≠ .unlock t) ∧ (stepO o op).s.full = o.s.full ∧ (stepO o op).owner = o.owner) := by
  cases op with
  | lock t d p =>
    by_cases hk : (lock o.s d p).2 = .ok
    · exact .inl ⟨((lock_ok_iff ..).mp hk).2.1, by simp [stepO, (lock_spec ..).2, hk], by simp [stepO, hk]⟩
    · exact .inr (.inr ⟨nofun, by simp [stepO, (lock_spec ..).2, hk], by simp [stepO, hk]⟩)
  | tryLock t => cases hf : o.s.full <;> simp [stepO, tryLock, hf]
  | forceLock t => cases hf : o.s.full <;> simp [stepO, forceLock, hf]
  | unlock t => simp [stepO, unlock]
  | closeConn => simp [stepO]

theorem oinv_step (o : Owned) (op : Op) (h : OInv o) : OInv (stepO o op) := by
  unfold OInv at *
  rcases stepO_cases o op with ⟨-, h1, h2⟩ | ⟨-, h1, h2⟩ | ⟨-, h1, h2⟩ <;> simp [h1, h2, h]

/-- every reachable state satisfies the invariant (an `unlock` clears the ghost owner whoever calls it). -/
theorem oinv_run (ops : List Op) (o : Owned) (h : OInv o) : OInv (runO ops o) := by
  induction ops generalizing o with
  | nil => exact h
  | cons op ops ih => exact ih _ (oinv_step o op h)

/-- **mutual exclusion**: in any state reachable by any interleaving that respects the discipline, a
`lock` (any pick), `tryLock` or `forceLock` succeeds only when nobody owns the lock. -/
theorem acquire_only_when_free (ops : List Op) (hd : allDisciplined ops initO = true) :
    let o := runO ops initO
    (∀ d p, (lock o.s d p).2 = .ok → o.owner = none) ∧
    ((tryLock o.s).2 = true → o.owner = none) ∧
    ((forceLock o.s).2 = .ok → o.owner = none) := by
  intro o
  -- each of the three succeeds only when the channel is empty, and then nobody owns the lock
  have hfree : o.s.full = false → o.owner = none := by
    have hi : OInv o := oinv_run ops initO (by simp [OInv, initO])
    cases ho : o.owner <;> simp_all [OInv]
  refine ⟨fun d p hk => hfree ((lock_ok_iff ..).mp hk).2.1, fun hk => hfree ((tryLock_spec _).1.mp hk),
    fun hk => hfree ?_⟩
  cases hf : o.s.full <;> simp_all [forceLock]

def unlocksBy (t : Nat) : List Op → Bool
  | [] => false
  | .unlock t' :: ops => t' == t || unlocksBy t ops
  | _ :: ops => unlocksBy t ops

/-- **the holder keeps the lock until it releases it itself**: if goroutine `t` owns the lock and the
(disciplined) program that follows contains no `unlock` by `t`, then `t` still owns it afterwards —
whatever other goroutines attempt in between (lock attempts that time out, hit a closed connection,
tryLock, forceLock attempts that block), and the channel still holds its token. -/
theorem holder_keeps_lock (t : Nat) (ops : List Op) (o : Owned) (hi : OInv o) (ho : o.owner = some t)
    (hd : allDisciplined ops o = true) (hn : unlocksBy t ops = false) :
    (runO ops o).owner = some t ∧ (runO ops o).s.full = true := by
  induction ops generalizing o with
  | nil => exact ⟨ho, hi.mpr (by simp [ho])⟩
  | cons op ops ih =>
    simp only [allDisciplined, Bool.and_eq_true] at hd
    have hfull : o.s.full = true := hi.mpr (by simp [ho])
    -- nobody else can acquire a held lock, and only the holder may unlock
    rcases stepO_cases o op with ⟨h0, -⟩ | ⟨⟨t', rfl⟩, -⟩ | ⟨hop, -, h2⟩
    · simp [hfull] at h0
    · have : t = t' := by simpa [disciplined, ho] using hd.1
      simp [unlocksBy, this] at hn
    · refine ih _ (oinv_step o op hi) (h2.trans ho) hd.2 ?_
      cases op <;> first | exact hn | exact absurd rfl (hop _)

/-- non-vacuity: a disciplined program in which goroutine 1 takes the lock, goroutine 2's attempts fail
in every way (context expiry, tryLock, closed connection), and 1 still owns the lock. -/
example :
    let ops := [Op.lock 1 false .sendCase, .lock 2 true .ctxCase, .tryLock 2, .lock 2 false .sendCase,
                .closeConn, .lock 2 false .closedCase]
    allDisciplined ops initO = true ∧ (runO ops initO).owner = some 1 ∧ (runO ops initO).s.full = true := by
  decide

/-- what the theorem excludes, as a concrete counter-model: a `lock` whose context case also "releases"
(the shape of a plausible mistake: re-checking the context after the select and unlocking) lets a
second goroutine in while the first still believes it holds the lock. -/
def lockBroken (s : St) (ctxDone : Bool) (p : Pick) : St × Res :=
  match p with
  | .ctxCase => if ctxDone then (unlock s, .errCtx) else (s, .blocked)
  | _ => lock s ctxDone p

example : (lockBroken ⟨true, false⟩ true .ctxCase).1 ≠ ⟨true, false⟩ := by decide

end WS.Props.C05Mu
