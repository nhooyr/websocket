import WS.Model.Pool
import WS.Props.C07Window
/-
  C07 — Connections are isolated: a pooled inflater is never used by a connection that does not own
  it (model of the reference fields that can outlive a Put; the byte-level provenance of payloads
  and the other pools are observed by the harness).
-/
namespace WS.Props.C07
open WS.Model.Pool

/-- isolation as a predicate on one state: a field refers to an object only if that object is owned by
that connection — not in the pool, not referenced by another connection. That it holds in every state
reachable by any interleaving of the connections' operations is `owned_run`. -/
def Owned (s : PState) : Prop :=
  (∀ (i : Nat) (c : Conn) (o : Nat), s.conns[i]? = some c → (c.fr = some o ∨ c.src = Src.flate o) →
      o < s.next ∧ o ∉ s.free ∧ c.fr = some o ∧
      ∀ (j : Nat) (c' : Conn), s.conns[j]? = some c' → (c'.fr = some o ∨ c'.src = Src.flate o) → j = i) ∧
  (∀ o ∈ s.free, o < s.next) ∧ s.free.Nodup

/-- `owner` is the ownership map of `s`, the notion `Owned` is the shadow of and the monitor computes: what a
connection's fields refer to it owns (and `fr` holds it); pooled objects have no owner; whatever has an owner or
lies in the pool was handed out before. -/
structure OwnedBy (s : PState) (owner : Nat → Option Nat) : Prop where
  ref : ∀ {i c o}, s.conns[i]? = some c → (c.fr = some o ∨ c.src = Src.flate o) → c.fr = some o ∧ owner o = some i
  pool : ∀ {o}, o ∈ s.free → owner o = none ∧ o < s.next
  lt : ∀ {o i}, owner o = some i → o < s.next
  nodup : s.free.Nodup

theorem OwnedBy.owned {s owner} (h : OwnedBy s owner) : Owned s := by
  refine ⟨fun i c o hc hr => ?_, fun o ho => (h.pool ho).2, h.nodup⟩
  obtain ⟨hfr, ho⟩ := h.ref hc hr
  refine ⟨h.lt ho, fun hf => ?_, hfr, fun j c' hc' hr' => ?_⟩
  · simp [(h.pool hf).1] at ho
  · simpa [ho, eq_comm] using (h.ref hc' hr').2

theorem owned_init : OwnedBy init (fun _ => none) := by
  constructor <;> simp [init]

/-- connection `i` gets a new record: the other connections keep what they own. -/
theorem OwnedBy.set {s owner i c} (h : OwnedBy s owner) (hc : s.conns[i]? = some c) {c' owner' free' next'}
    (hi : ∀ {o}, c'.fr = some o ∨ c'.src = Src.flate o → c'.fr = some o ∧ owner' o = some i)
    (hk : ∀ {o k}, owner o = some k → k ≠ i → owner' o = some k)
    (pool : ∀ {o}, o ∈ free' → owner' o = none ∧ o < next') (lt : ∀ {o k}, owner' o = some k → o < next')
    (nodup : free'.Nodup) : OwnedBy ⟨setConn s.conns i c', free', next'⟩ owner' := by
  refine ⟨fun {k x o} hx hr => ?_, pool, lt, nodup⟩
  simp only [setConn, List.getElem?_set_of_getElem? hc] at hx
  split at hx
  · cases hx; subst k; exact hi hr
  · obtain ⟨hfr, ho⟩ := h.ref hx hr
    exact ⟨hfr, hk ho ‹_›⟩

/-- connection `i` takes an object nobody owns (out of the pool, or one never used before). -/
theorem OwnedBy.get {s owner i c o} (h : OwnedBy s owner) (hc : s.conns[i]? = some c) {free' next'}
    (ho : owner o = none) (hlt : o < next') (hnext : s.next ≤ next') (hsub : free'.Sublist s.free) (hof : o ∉ free') :
    OwnedBy ⟨setConn s.conns i ⟨some o, .flate o⟩, free', next'⟩ (fun x => if x = o then some i else owner x) := by
  refine h.set hc (by simp) (fun {o' k} ho' _ => ?_) (fun {o'} ho' => ?_) (fun {o' k} ho' => ?_) (hsub.nodup h.nodup)
  · rw [if_neg]; exact ho'
    rintro rfl; simp [ho] at ho'
  · have := h.pool (hsub.subset ho')
    rw [if_neg]; exact ⟨this.1, by omega⟩
    rintro rfl; exact hof ho'
  · split at ho'
    · subst o'; exact hlt
    · have := h.lt ho'; omega

/-- every operation preserves ownership (in particular `release` detaches `src`, so a later `read`
cannot reach the released inflater), and the monitor, fed the events of the operation, follows the
ownership map. -/
theorem owned_step {s owner} (i : Nat) (op : Op) (h : OwnedBy s owner) :
    ∃ owner', OwnedBy (step s i op).1 owner' ∧
      ∀ rest, monitor ((step s i op).2 ++ rest) owner = monitor rest owner' := by
  have same : ∃ owner', OwnedBy s owner' ∧ ∀ rest, monitor ([] ++ rest) owner = monitor rest owner' :=
    ⟨owner, h, fun _ => rfl⟩
  cases op with
  | open_ =>
    refine ⟨owner, ⟨fun {k c o} hc hr => ?_, h.pool, h.lt, h.nodup⟩, fun _ => rfl⟩
    simp only [step, List.getElem?_append_singleton] at hc
    split at hc
    · cases hc; simp at hr
    · exact h.ref hc hr
  | read =>
    simp only [step]
    split
    · exact same
    · rename_i c hc
      split
      · rename_i o ho
        exact ⟨owner, h, fun rest => by simp [monitor, (h.ref hc (.inr ho)).2]⟩
      · exact same
  | startPlain =>
    simp only [step]
    split
    · exact same
    · rename_i c hc
      exact ⟨owner, h.set hc (fun hr => h.ref hc (c := c) (.inl (by simpa using hr))) (fun ho _ => ho)
        h.pool h.lt h.nodup, fun _ => rfl⟩
  | release =>
    simp only [step]
    split
    · exact same
    · rename_i c hc
      split
      · exact same
      · rename_i o ho
        have hown := (h.ref hc (.inl ho)).2
        refine ⟨fun x => if x = o then none else owner x, h.set hc (by simp) ?_ ?_ ?_ ?_,
          fun rest => by simp [monitor, hown]⟩
        · intro o' k ho' hk
          rw [if_neg]; exact ho'
          rintro rfl; simp_all
        · intro o' ho'
          rcases List.mem_cons.mp ho' with rfl | ho'
          · simp [h.lt hown]
          · simp [h.pool ho']
        · intro o' k ho'
          split at ho'
          · cases ho'
          · exact h.lt ho'
        · refine List.nodup_cons.mpr ⟨fun hf => ?_, h.nodup⟩
          simp [(h.pool hf).1] at hown
  | startCompressed fp =>
    simp only [step]
    split
    · exact same            -- no such connection
    · rename_i c hc
      split
      · exact same          -- it still holds an inflater
      · split
        · rename_i o rest hfree   -- an inflater `o` is taken out of the pool
          have hn := h.nodup
          rw [hfree] at hn
          have ho := h.pool (o := o) (by simp [hfree])
          exact ⟨_, h.get hc ho.1 ho.2 (Nat.le_refl _) (hfree ▸ List.sublist_cons_self o rest) (List.nodup_cons.mp hn).1,
            fun rest => by simp [monitor, ho.1]⟩
        · -- a new inflater `s.next`, which nobody can own yet
          have ho : owner s.next = none := by
            cases hn : owner s.next with
            | none => rfl
            | some k => exact absurd (h.lt hn) (Nat.lt_irrefl _)
          exact ⟨_, h.get hc ho (Nat.lt_succ_self _) (Nat.le_succ _) (List.Sublist.refl _)
            (fun hf => Nat.lt_irrefl _ (h.pool hf).2), fun rest => by simp [monitor, ho]⟩

theorem ownedBy_run (ops : List (Nat × Op)) : ∀ {s owner}, OwnedBy s owner →
    Owned (run s ops).1 ∧ monitor (run s ops).2 owner = true := by
  induction ops with
  | nil => exact fun h => ⟨h.owned, rfl⟩
  | cons p rest ih =>
    intro s owner h
    obtain ⟨owner', h', hm⟩ := owned_step p.1 p.2 h
    simp only [run, hm]
    exact ih h'

theorem owned_run (ops : List (Nat × Op)) : Owned (run init ops).1 :=
  (ownedBy_run ops owned_init).1

/-- **every `use` event is by the owner**: for any number of connections and any interleaving of
their operations (reading again after the end of a message, abandoning a message, releasing at any
point, new connections taking objects from the pool), the event log passes the ownership monitor. -/
theorem all_uses_owned (ops : List (Nat × Op)) : monitor (run init ops).2 (fun _ => none) = true :=
  (ownedBy_run ops owned_init).2

/-- non-vacuity / regression: with the pre-fix behaviour (release that leaves `src` pointing to the
inflater) the monitor rejects the log of: A reads a compressed message to its end, B starts one
(receiving the same inflater from the pool), A reads again. -/
theorem stale_source_is_caught :
    monitor [.get 0 0, .use 0 0, .put 0 0, .get 1 0, .use 0 0] (fun _ => none) = false := by
  decide

end WS.Props.C07
