import WS.Model.Guard
import WS.Gen.Guards
import WS.Model.Reader
import WS.Model.Handshake
/-
  Definitions (valuations, decision tables) for WS/Props/Guards.lean.
  The decision skeletons regenerated from read.go / write.go (WS/Gen/Guards.lean) against the models and
  against decision tables stated outright, on every valuation of their atoms.  Each theorem is closed by
  kernel evaluation over the whole (finite) domain, so it holds for whatever program the translator
  produced from the current sources: an equivalent re-writing of a condition passes, a change of meaning
  fails — and the failing valuation is found by `WS/GuardsCex.lean`, which `bin/check` runs over the same valuations.
-/
namespace WS.Props.Guards
open WS WS.Model WS.Model.Guard WS.Gen.Guards

def b2s (b : Bool) : String := if b then "true" else "false"

def hdr (fin rsv1 rsv2 rsv3 masked : Bool) (op : Nat) : Header :=
  { fin := fin, rsv1 := rsv1, rsv2 := rsv2, rsv3 := rsv3, opcode := op, len := 0, masked := masked, key := [] }

def rcfg (client flate : Bool) : RCfg := { client := client, flate := flate, takeover := true, limit := 32768 }

def envRSV1 (flate : Bool) (op : Nat) : Env :=
  { b := fun n => if n = "flate()" then some flate else none,
    i := fun n => if n = "h.opcode" then some (op : Int) else none,
    fn := fun _ => none }

def envReadLoop (rsv1 rsv2 rsv3 masked client flate ioErr closeStatus : Bool) (op : Nat) : Env :=
  { b := fun n =>
      if n = "h.rsv1" then some rsv1 else if n = "h.rsv2" then some rsv2 else if n = "h.rsv3" then some rsv3
      else if n = "h.masked" then some masked else if n = "client" then some client
      else if n = "flate()" then some flate else if n = "err!=nil" then some ioErr
      else if n = "CloseStatus(err)!=-1" then some closeStatus else none,
    i := fun n => if n = "h.opcode" then some (op : Int) else none,
    fn := fun n => if n = "readRSV1Illegal" then some c_Conn_readRSV1Illegal else none }

/-- what readLoop must do with a frame header according to the reader model's `headerCheck`
(length and FIN of control frames are checked later, by handleControl). -/
def readLoopExpected (rsv1 rsv2 rsv3 masked client flate ioErr : Bool) (op : Nat) : Res :=
  if ioErr then ⟨["readFrameHeader"], .ret "err"⟩
  else
    match headerCheck (rcfg client flate) (hdr true rsv1 rsv2 rsv3 masked op) with
    | some .protoNoClose => ⟨["readFrameHeader"], .ret "err"⟩
    | some _ => ⟨["readFrameHeader", "writeError"], .ret "err"⟩
    | none =>
      if isControl op then ⟨["readFrameHeader", "handleControl"], .opaque "next iteration"⟩
      else ⟨["readFrameHeader"], .ret "ok"⟩

def envTakeover (client cnct snct : Bool) : Env :=
  { b := fun n => if n = "client" then some client else if n = "copts.clientNoContextTakeover" then some cnct
      else if n = "copts.serverNoContextTakeover" then some snct else none,
    i := fun _ => none, fn := fun _ => none }

def envWriteFrame (closeSent client flate fin lockErr staleRsv1 staleFin : Bool) (op : Nat) (through : Bool) : Env :=
  { b := fun n => if n = "closeSent" then some closeSent else if n = "client" then some client
      else if n = "flate" then some flate else if n = "fin" then some fin
      else if n = "err!=nil" then some lockErr
      -- the write header is reused from frame to frame: what the previous frame left in it
      else if n = "writeHeader.rsv1" then some staleRsv1 else if n = "writeHeader.fin" then some staleFin
      else if n = "writeHeader.masked" then some client else none,
    i := fun n => if n = "opcode" then some (op : Int) else none,
    fn := fun _ => none,
    pass := fun w => through && w = "select",
    obs := fun w => if w = "writeFrameHeader" then ["writeHeader.fin", "writeHeader.rsv1", "writeHeader.masked"] else [] }

/-- the decision table of the post-Close guard. -/
def writeFrameGuardExpected (closeSent lockErr : Bool) (op : Nat) : Res :=
  if lockErr then ⟨["writeFrameMu.lock"], .ret "err"⟩
  else if closeSent && op != 9 && op != 10 then ⟨["writeFrameMu.lock"], .ret "err"⟩
  else ⟨["writeFrameMu.lock"], .opaque "select"⟩

/-- the steps of an emission on which nothing fails, with the header bits in force when the header is written:
FIN as asked, RSV1 exactly on the first frame of a compressed message (never on control or continuation frames,
whatever the previous frame left in the reused header), MASK exactly for a client. -/
def writeFrameEmissionExpected (client flate fin : Bool) (op : Nat) : Res :=
  ⟨["writeFrameMu.lock"] ++ (if op = 8 then ["set closeSent"] else []) ++
    ["writeFrameHeader[writeHeader.fin=" ++ b2s fin ++ ",writeHeader.rsv1=" ++ b2s (flate && (op = 1 || op = 2))
      ++ ",writeHeader.masked=" ++ b2s client ++ "]", "writeFramePayload"]
    ++ (if fin then ["bw.Flush"] else []), .ret "ok"⟩

def envReader (msgFin ioErr : Bool) (op : Nat) : Env :=
  { b := fun n => if n = "msgReader.fin" then some msgFin else if n = "err!=nil" then some ioErr else none,
    i := fun n => if n = "h.opcode" then some (op : Int) else none,
    fn := fun _ => none }

def readerExpected (msgFin ioErr : Bool) (op : Nat) : Res :=
  if ioErr then ⟨["readMu.lock"], .ret "err"⟩
  else if !msgFin then ⟨["readMu.lock"], .ret "err"⟩
  else if op = 0 then ⟨["readMu.lock", "readLoop", "writeError"], .ret "err"⟩
  else ⟨["readMu.lock", "readLoop", "msgReader.reset"], .ret "ok"⟩

def envMsgRead (frameDone fin flate client ioErr big : Bool) (op : Nat) : Env :=
  { b := fun n => if n = "fin" then some fin else if n = "flate" then some flate else if n = "client" then some client
      else if n = "err!=nil" then some ioErr else if n = "payloadLength<int64(len(p))" then some big else none,
    i := fun n => if n = "h.opcode" then some (op : Int) else if n = "payloadLength" then some (if frameDone then 0 else 1) else none,
    fn := fun _ => none }

def msgReadExpected (fin flate : Bool) (op : Nat) : Res :=
  if fin then (if flate then ⟨["flateTail.Read"], .ret "ok"⟩ else ⟨[], .ret "err"⟩)
  else if op != 0 then ⟨["readLoop", "writeError"], .ret "err"⟩
  else ⟨["readLoop", "setFrame"], .opaque "next iteration"⟩


/-! ### msgWriter.Write / msgWriter.Close: when compression switches on, what a finished message releases -/

def envMsgWrite (lockErr closed flateNeg flateOn big : Bool) (op : Nat) : Env :=
  { b := fun n => if n = "err!=nil" then some lockErr else if n = "closed" then some closed
      else if n = "flate()" then some flateNeg else if n = "flate" then some flateOn
      else if n = "len(p)<flateThreshold" then some (!big) else none,
    i := fun n => if n = "opcode" then some (op : Int) else none,
    fn := fun _ => none }

/-- compression is switched on for a message exactly when it was negotiated, the chunk is the message's first
frame (the writer's opcode is not yet `continuation`) and the chunk reaches the threshold; a closed writer
writes nothing. -/
def msgWriteExpected (lockErr closed flateNeg flateOn big : Bool) (op : Nat) : Res :=
  if lockErr then ⟨["writeMu.lock"], .ret "err"⟩
  else if closed then ⟨["writeMu.lock"], .ret "err"⟩
  else
    let pre := ["writeMu.lock"] ++ (if flateNeg && op != 0 && big then ["ensureFlate"] else [])
    if flateOn then ⟨pre ++ ["flateWriter.Write"], .ret "ok"⟩ else ⟨pre ++ ["write"], .ret "ok"⟩

def envMsgClose (lockErr closed flateOn takeover : Bool) : Env :=
  { b := fun n => if n = "err!=nil" then some lockErr else if n = "closed" then some closed
      else if n = "flate" then some flateOn else if n = "flateContextTakeover()" then some takeover else none,
    i := fun _ => none, fn := fun _ => none }

/-- Close marks the writer closed before anything is sent, flushes the compressor of a compressed message, sends
the final frame, gives the compressor back exactly when its context is not to be kept, and releases the
message lock only after the final frame was written. -/
def msgCloseExpected (lockErr closed flateOn takeover : Bool) : Res :=
  if lockErr then ⟨["writeMu.lock"], .ret "err"⟩
  else if closed then ⟨["writeMu.lock"], .ret "err"⟩
  else ⟨["writeMu.lock", "set closed"] ++ (if flateOn then ["flateWriter.Flush"] else []) ++ ["writeFrame"]
      ++ (if flateOn && !takeover then ["putFlateWriter"] else []) ++ ["mu.unlock"], .ret "ok"⟩

end WS.Props.Guards
