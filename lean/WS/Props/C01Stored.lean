import WS.Props.C01
import WS.Spec.Inflate
import WS.Proofs.Stored
/-
  C01, codec hypothesis discharged — the round trip proved end to end for a concrete compressor
  (stored blocks only) and the reference RFC 1951 inflater `WS.Spec.inflate`.
-/
namespace WS.Props.C01Stored
open WS WS.Model WS.Spec WS.Proofs.Stored

/-- the inflater the driver plugs into the reader model (re-stated, so that nothing here depends
on the driver). -/
def inflateImpl : Model.Inflate := fun dict z =>
  let r := Spec.inflate dict z
  { plain := r.2, ok := r.1 != .corrupt }

/-- one non-final stored DEFLATE block (RFC 1951 §3.2.4) for `p`, `p.length ≤ 65535`:
header byte 0x00 (BFINAL=0, BTYPE=00, padding), LEN and NLEN little endian, the bytes. -/
def storedBlock (p : Bytes) : Bytes :=
  [0x00, UInt8.ofNat (p.length % 256), UInt8.ofNat (p.length / 256),
    UInt8.ofNat ((65535 - p.length) % 256), UInt8.ofNat ((65535 - p.length) / 256)] ++ p

/-- `p` cut into pieces of at most 65535 bytes (fuel = an upper bound of the number of pieces). -/
def piecesAux : Nat → Bytes → List Bytes
  | 0, _ => []
  | fuel + 1, p => if p.isEmpty then [] else p.take 65535 :: piecesAux fuel (p.drop 65535)

def pieces (p : Bytes) : List Bytes := piecesAux p.length p

/-- a whole message as a permessage-deflate sender emits it when it only uses stored blocks:
one stored block per piece, then the header byte of the sync flush's empty stored block (its
last four bytes 00 00 ff ff are removed by RFC 7692 §7.2.1). -/
def storedMessage (p : Bytes) : Bytes :=
  ((pieces p).map storedBlock).flatten ++ [0x00]

theorem piecesAux_spec : ∀ (fuel : Nat) (p : Bytes), p.length ≤ fuel →
    (piecesAux fuel p).flatten = p ∧ ∀ q ∈ piecesAux fuel p, q ≠ [] ∧ q.length ≤ 65535
  | 0, p, h => by
    have : p = [] := List.eq_nil_of_length_eq_zero (by omega)
    simp [piecesAux, this]
  | fuel + 1, [], _ => by simp [piecesAux]
  | fuel + 1, x :: xs, h => by
    obtain ⟨ih1, ih2⟩ := piecesAux_spec fuel ((x :: xs).drop 65535) (by simp at h ⊢; omega)
    simp only [piecesAux, List.isEmpty_cons, Bool.false_eq_true, if_false, List.flatten_cons, ih1,
      List.take_append_drop, List.mem_cons, forall_eq_or_imp, true_and]
    exact ⟨⟨by simp, by simp [List.length_take]; omega⟩, ih2⟩

/-- the pieces are a partition of the message into non-empty blocks of at most 65535 bytes. -/
theorem pieces_spec (p : Bytes) :
    (pieces p).flatten = p ∧ ∀ q ∈ pieces p, q ≠ [] ∧ q.length ≤ 65535 :=
  piecesAux_spec _ p (Nat.le_refl _)

/-- an empty message is just the header byte of the sync flush's empty block. -/
theorem storedMessage_nil : storedMessage [] = [0x00] := by decide

/-- LEN and NLEN of a stored block are 16-bit little-endian numbers. -/
theorem le16 (n : Nat) (h : n < 256 * 256) :
    (UInt8.ofNat (n % 256)).toNat + 256 * (UInt8.ofNat (n / 256)).toNat = n := by
  simp [Nat.mod_eq_of_lt (Nat.div_lt_of_lt_mul h), Nat.mod_add_div]

/-- from a block boundary, the inflater copies every stored block to its output and stops at
the end of the input with `needMore` (the stream is accepted so far, no final block). A block
takes one unit of fuel and at least five bytes; fuel 0 is ruled out by the last hypothesis. -/
theorem blocks_stored (z : Bytes) : ∀ (ps : List Bytes) (pre : Bytes) (o : ByteArray) (fuel : Nat),
    (∀ q ∈ ps, q.length ≤ 65535) → z = pre ++ (ps.map storedBlock).flatten →
    ((ps.map storedBlock).flatten).length < fuel →
    blocks fuel ⟨⟨z.toByteArray, 8 * pre.length⟩, o⟩ =
      (.needMore, ⟨⟨z.toByteArray, 8 * z.length⟩, o ++ ps.flatten.toByteArray⟩)
  | [], pre, o, f + 1, _, hz, _ => by
    obtain rfl : z = pre := by simpa using hz
    simp [blocks_eof]
  | q :: ps, pre, o, f + 1, hps, hz, hf => by
    obtain ⟨hq, hps⟩ := List.forall_mem_cons.1 hps
    simp [storedBlock] at hz hf
    rw [stored_step z pre q _ _ _ _ _ o f hz (le16 _ (by omega)) (le16 _ (by omega)),
      show pre.length + 5 + q.length = (pre ++ storedBlock q).length by simp [storedBlock]; omega,
      blocks_stored z ps _ _ f hps (by simp [hz, storedBlock]) (by simp; omega)]
    simp [ByteArray.append_assoc]

/-- **the reference inflater inverts stored blocks**, for every preset dictionary and every
sequence of blocks of at most 65535 bytes (empty ones included); the stream has no final block. -/
theorem inflate_storedBlocks (dict : Bytes) (ps : List Bytes) (hps : ∀ q ∈ ps, q.length ≤ 65535) :
    Spec.inflate dict (ps.map storedBlock).flatten = (.needMore, ps.flatten) :=
  inflate_of_blocks dict _ _ _ _ (blocks_stored _ ps [] _ _ hps rfl (by omega))

/-- **the stored-block compressor is inverted by the reference inflater**, for every preset
dictionary and every message (any length, hence any number of blocks). -/
theorem inflate_stored (dict p : Bytes) :
    Spec.inflate dict (storedMessage p ++ deflateTail) = (.needMore, p) := by
  -- the trailing `0x00` of `storedMessage` and the four bytes of `deflateTail` are one more stored block, the empty one
  have h := inflate_storedBlocks dict (pieces p ++ [[]]) (by
    simpa [or_imp, forall_and] using fun q hq => ((pieces_spec p).2 q hq).2)
  simpa [storedMessage, storedBlock, deflateTail, (pieces_spec p).1] using h

theorem stored_inflates (dict p : Bytes) :
    inflateImpl dict (storedMessage p ++ deflateTail) = { plain := p, ok := true } := by
  simp [inflateImpl, inflate_stored]

/-- the observed compressed chunks of a message are the stored-block form of what was written. -/
def storedOp : WOp → Bool
  | .msg _ _ chunks obs => obs.flatten == storedMessage chunks.flatten
  | _ => true

/-- every message of the program was compressed with stored blocks only. -/
def StoredObs (ops : List WOp) : Prop := ∀ op ∈ ops, storedOp op = true

instance (ops : List WOp) : Decidable (StoredObs ops) :=
  inferInstanceAs (Decidable (∀ op ∈ ops, storedOp op = true))

/-- the same, required only of the messages that are compressed under `wcfg` (the observed chunks
of the others are not used by the writer). -/
def storedOpFor (wcfg : WCfg) : WOp → Bool
  | .msg _ _ chunks obs => !compresses wcfg chunks || obs.flatten == storedMessage chunks.flatten
  | _ => true

def StoredObsFor (wcfg : WCfg) (ops : List WOp) : Prop := ∀ op ∈ ops, storedOpFor wcfg op = true

instance (wcfg : WCfg) (ops : List WOp) : Decidable (StoredObsFor wcfg ops) :=
  inferInstanceAs (Decidable (∀ op ∈ ops, storedOpFor wcfg op = true))

theorem StoredObs.for (wcfg : WCfg) {ops : List WOp} (h : StoredObs ops) : StoredObsFor wcfg ops := by
  intro op hop
  have := h op hop
  cases op <;> simp_all [storedOp, storedOpFor]

theorem codecOK_storedFor (wcfg : WCfg) (rtakeover : Bool) (dict : Bytes) (ops : List WOp)
    (h : StoredObsFor wcfg ops) : CodecOK inflateImpl wcfg rtakeover dict ops := by
  induction ops generalizing dict with
  | nil => simp [CodecOK]
  | cons op ops ih =>
    obtain ⟨hop, hops⟩ := List.forall_mem_cons.1 h
    cases op with
    | msg typ viaWriter chunks obs =>
      unfold CodecOK
      split
      · rename_i hc
        have : obs.flatten = storedMessage chunks.flatten := by simpa [storedOpFor, hc] using hop
        rw [this]
        exact ⟨stored_inflates dict chunks.flatten, ih _ hops⟩
      · exact ih _ hops
    | _ => exact ih _ hops

/-- **codec law for the stored-block compressor**: whatever the options and the receiver's
dictionary, the real inflater satisfies the hypothesis of the round-trip theorem. -/
theorem codecOK_stored (wcfg : WCfg) (rtakeover : Bool) (dict : Bytes) (ops : List WOp)
    (h : StoredObs ops) : CodecOK inflateImpl wcfg rtakeover dict ops :=
  codecOK_storedFor wcfg rtakeover dict ops (h.for wcfg)

/-- `roundtrip_stored` below with the stored form required of the compressed messages only. -/
theorem roundtrip_storedFor (wcfg : WCfg) (rtakeover : Bool) (ops : List WOp) (keys : List Bytes)
    (hwf : ∀ op ∈ ops, opWF op) (hnc : ∀ op ∈ ops, isClose op = false) (hctl : ∀ op ∈ ops, ctlOK op)
    (hk : KeysOK keys (runWriter wcfg ops keys).length)
    (hlen : ∀ f ∈ runWriter wcfg ops keys, f.h.len < 2 ^ 63)
    (hstored : StoredObsFor wcfg ops) :
    readStream inflateImpl { client := !wcfg.client, flate := wcfg.flate, takeover := rtakeover, limit := -1 } []
        (writerBytes wcfg ops keys) =
      (ops.map opEvents).flatten ++ [.fail .io] :=
  WS.Props.C01.roundtrip inflateImpl wcfg rtakeover ops keys hwf hnc hctl hk hlen
    (codecOK_storedFor wcfg rtakeover [] ops hstored)

/-- **round trip, end to end**: `C01.roundtrip` with the reference inflater and no codec hypothesis. -/
theorem roundtrip_stored (wcfg : WCfg) (rtakeover : Bool) (ops : List WOp) (keys : List Bytes)
    (hwf : ∀ op ∈ ops, opWF op) (hnc : ∀ op ∈ ops, isClose op = false) (hctl : ∀ op ∈ ops, ctlOK op)
    (hk : KeysOK keys (runWriter wcfg ops keys).length)
    (hlen : ∀ f ∈ runWriter wcfg ops keys, f.h.len < 2 ^ 63)
    (hstored : StoredObs ops) :
    readStream inflateImpl { client := !wcfg.client, flate := wcfg.flate, takeover := rtakeover, limit := -1 } []
        (writerBytes wcfg ops keys) =
      (ops.map opEvents).flatten ++ [.fail .io] :=
  roundtrip_storedFor wcfg rtakeover ops keys hwf hnc hctl hk hlen (hstored.for wcfg)

/-! ### non-vacuity -/

/-- a server with permessage-deflate and threshold 1 writes one compressed text message. -/
def exCfg : WCfg := { client := false, flate := true, takeover := false, threshold := 1 }
def exOps : List WOp := [.msg opText false [[1, 2, 3]] [storedMessage [1, 2, 3]], .ping [7]]

example : storedMessage [1, 2, 3] = [0x00, 3, 0, 0xfc, 0xff, 1, 2, 3, 0x00] := by decide
example : compresses exCfg [[1, 2, 3]] = true := by decide
example : StoredObs exOps := by decide
example : inflateImpl [] (storedMessage [1, 2, 3] ++ deflateTail) = { plain := [1, 2, 3], ok := true } :=
  stored_inflates [] [1, 2, 3]

/-- the hypotheses of `roundtrip_stored` are satisfiable, and the message is really compressed:
the peer of `exCfg` receives the text message and answers the Ping. -/
example :
    readStream inflateImpl { client := true, flate := true, takeover := false, limit := -1 } []
        (writerBytes exCfg exOps [[0, 0, 0, 0], [0, 0, 0, 0], [0, 0, 0, 0]]) =
      [.msg opText [1, 2, 3], .reply opPong [7], .fail .io] :=
  roundtrip_stored exCfg false exOps [[0, 0, 0, 0], [0, 0, 0, 0], [0, 0, 0, 0]]
    (by simp [exOps]; simp [opWF, opText]) (by decide) (by simp [exOps]; simp [ctlOK])
    ⟨by decide, by simp⟩ (by decide) (by decide)

#eval inflateImpl [] (storedMessage [1, 2, 3] ++ deflateTail)
#eval inflateImpl [9, 9] (storedMessage (List.replicate 70000 5) ++ deflateTail) |>.plain.length

end WS.Props.C01Stored
