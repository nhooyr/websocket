/-
  Two integers that compare alike with every constant of a list (`Agree`): the notion through which a program of either DSL
  (integer predicates, decision skeletons) depends on an integer.  Every integer agrees with one of finitely many
  representatives (`exists_rep`), which turns a check on those into a statement about every integer.
-/
namespace WS.Model.Guard

def Agree (cs : List Int) (x y : Int) : Prop := ∀ k ∈ cs, (x < k ↔ y < k) ∧ (x = k ↔ y = k)

theorem Agree.left {a b : List Int} {x y : Int} (h : Agree (a ++ b) x y) : Agree a x y :=
  fun k hk => h k (List.mem_append_left _ hk)
theorem Agree.right {a b : List Int} {x y : Int} (h : Agree (a ++ b) x y) : Agree b x y :=
  fun k hk => h k (List.mem_append_right _ hk)

variable {x y : Int}

theorem contains_agree {ks : List Int} (h : Agree ks x y) : ks.contains x = ks.contains y := by
  simp only [List.contains_eq_mem, decide_eq_decide]
  exact ⟨fun hx => (h x hx).2.mp rfl ▸ hx, fun hy => (h y hy).2.mpr rfl ▸ hy⟩

/-- one representative for each way an integer can compare with the constants `cs`: the constants, their neighbours,
and `0` in case there is no constant. -/
def reps (cs : List Int) : List Int := 0 :: cs.flatMap fun k => [k - 1, k, k + 1]

theorem mem_reps {cs : List Int} {z : Int} : z ∈ reps cs ↔ z = 0 ∨ ∃ k ∈ cs, z = k - 1 ∨ z = k ∨ z = k + 1 := by
  simp [reps]

theorem exists_rep (x : Int) : ∀ cs : List Int, ∃ r ∈ reps cs, Agree cs x r
  | [] => ⟨0, List.mem_cons_self .., fun _ h => nomatch h⟩
  | k :: cs => by
    obtain ⟨r, hr, h⟩ := exists_rep x cs
    -- `x` and `r` agree on `cs`, so no constant of `cs` lies between them: any `r'` in between agrees with `x` on `cs` as well
    have key : ∀ r', (r' = r ∨ r' = k - 1 ∨ r' = k ∨ r' = k + 1) → ((x < k ↔ r' < k) ∧ (x = k ↔ r' = k)) →
        (r ≤ r' ∧ r' ≤ x ∨ x ≤ r' ∧ r' ≤ r) → ∃ r ∈ reps (k :: cs), Agree (k :: cs) x r := by
      intro r' hm hk hb
      refine ⟨r', ?_, ?_⟩
      · rw [mem_reps] at hr ⊢
        rcases hm with rfl | hm
        · rcases hr with h0 | ⟨c, hc, hz⟩
          · exact .inl h0
          · exact .inr ⟨c, List.mem_cons_of_mem _ hc, hz⟩
        · exact .inr ⟨k, List.mem_cons_self .., hm⟩
      · intro c hc
        rcases List.mem_cons.1 hc with rfl | hc
        · exact hk
        · have := h c hc; omega
    by_cases h1 : x = k
    · exact key k (by omega) (by omega) (by omega)
    by_cases h2 : (x < k ↔ r < k) ∧ r ≠ k
    · exact key r (by omega) (by omega) (by omega)
    by_cases h3 : x < k
    · exact key (k - 1) (by omega) (by omega) (by omega)
    · exact key (k + 1) (by omega) (by omega) (by omega)

/-- beyond all the constants, on the same side, any two integers compare alike. -/
theorem agree_outside {lo hi x y : Int} {cs : List Int} (h : ∀ k ∈ cs, lo ≤ k ∧ k ≤ hi) (hxy : hi < x ∧ hi < y ∨ x < lo ∧ y < lo) :
    Agree cs x y := fun k hk => by have := h k hk; omega

end WS.Model.Guard
