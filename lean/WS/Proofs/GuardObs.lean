import WS.Model.Guard
/-
  What a run observes, as data.  `run` records an action as one string into which the observed variables are rendered
  (`actLabel`), and comparing computed strings is by far the dearest thing the kernel does in a decision-table obligation.
  `observe` is the same evaluation with each action recorded as its name and the list of observed values; `run` is its
  rendering (`run_eq_render`), so an obligation with observations is checked on the data and rendered once.
  `evalO` follows `evalS` (WS/Model/Guard.lean) clause by clause: a change of the DSL's evaluator is made in both, and in
  `constsS` / `evalS_far` (WS/Proofs/GuardFar.lean) and `evalS_eq_evalO`.
-/
namespace WS.Model.Guard

/-- an action with what was observed at it: the tracked variables that `env.obs` names, with their values. -/
structure Obs where
  act : String
  vals : List (String × Option Bool)
  deriving DecidableEq

structure ObsRes where
  acts : List Obs
  out : Out
  deriving DecidableEq

def Obs.label (o : Obs) : String :=
  match o.vals with
  | [] => o.act
  | kvs => o.act ++ "[" ++ ",".intercalate (kvs.map fun kv => kv.1 ++ "=" ++ showB kv.2) ++ "]"

def ObsRes.render (r : ObsRes) : Res := ⟨r.acts.map Obs.label, r.out⟩

def evalO (env : Env) (st : Store) : Nat → List GStmt → ObsRes × Store
  | _, [] => (⟨[], .fell⟩, st)
  | 0, _ :: _ => (⟨[], .stuck "fuel"⟩, st)
  | f + 1, s :: rest =>
    let cont (r : ObsRes × Store) : ObsRes × Store :=
      match r.1.out with
      | .fell => let r2 := evalO env r.2 f rest; (⟨r.1.acts ++ r2.1.acts, r2.1.out⟩, r2.2)
      | _ => r
    match s with
    | .ifThen c body =>
        match evalE env st f c with
        | some true => cont (evalO env st f body)
        | some false => evalO env st f rest
        | none => (⟨[], .stuck "condition"⟩, st)
    | .ifElse c a b =>
        match evalE env st f c with
        | some true => cont (evalO env st f a)
        | some false => cont (evalO env st f b)
        | none => (⟨[], .stuck "condition"⟩, st)
    | .switchOn n cases dflt =>
        match env.i n with
        | none => (⟨[], .stuck "switch tag"⟩, st)
        | some x =>
          match cases.find? (fun c => c.1.contains x) with
          | some c => cont (evalO env st f c.2)
          | none => cont (evalO env st f dflt)
    | .ret w => (⟨[], .ret w⟩, st)
    | .retExp c =>
        match evalE env st f c with
        | some true => (⟨[], .ret "true"⟩, st)
        | some false => (⟨[], .ret "false"⟩, st)
        | none => (⟨[], .stuck "condition"⟩, st)
    | .act w => let r2 := evalO env st f rest; (⟨⟨w, (env.obs w).map fun n => (n, st n)⟩ :: r2.1.acts, r2.1.out⟩, r2.2)
    | .assign n c =>
        match evalE env st f c with
        | some v => evalO env (st.set n v) f rest
        | none => (⟨[], .stuck "assignment"⟩, st)
    | .scope var body =>
        let r := evalO env st f body
        let go (st' : Store) : ObsRes × Store :=
          let r2 := evalO env st' f rest
          (⟨r.1.acts ++ r2.1.acts, r2.1.out⟩, r2.2)
        match r.1.out with
        | .fell => go r.2
        | .ret w =>
            if w = "err" then go (r.2.set (var ++ "!=nil") true)
            else if w = "ok" then go (r.2.set (var ++ "!=nil") false)
            else if w = "true" then go (r.2.set var true)
            else if w = "false" then go (r.2.set var false)
            else go r.2
        | _ => r
    | .opaque w => if env.pass w then evalO env st f rest else (⟨[], .opaque w⟩, st)
    | .skip => evalO env st f rest
    | .unknown src => (⟨[], .stuck src⟩, st)

theorem label_obs (env : Env) (st : Store) (w : String) :
    Obs.label ⟨w, (env.obs w).map fun n => (n, st n)⟩ = actLabel env st w := by
  simp only [Obs.label, actLabel]
  cases env.obs w <;> simp [List.map_map, Function.comp_def]

/-- a result of `evalO` as `evalS` gives it. -/
def rend (r : ObsRes × Store) : Res × Store := (r.1.render, r.2)

theorem rend_out (r : ObsRes × Store) : (rend r).1.out = r.1.out := rfl
theorem rend_acts (r : ObsRes × Store) : (rend r).1.acts = r.1.acts.map Obs.label := rfl
theorem rend_snd (r : ObsRes × Store) : (rend r).2 = r.2 := rfl

theorem evalS_eq_evalO (env : Env) : ∀ (f : Nat) (st : Store) (p : List GStmt),
    evalS env st f p = rend (evalO env st f p) := by
  intro f
  induction f with
  | zero => intro st p; cases p <;> rfl
  | succ f ih =>
    intro st p
    cases p with
    | nil => rfl
    | cons s rest =>
      -- both evaluators take the same step; what they match on is the same on both sides, and what is left is `map_append`
      have fin : ∀ r : ObsRes × Store,
          (match r.1.out with
            | .fell => (⟨r.1.acts.map Obs.label ++ (evalO env r.2 f rest).1.acts.map Obs.label, (evalO env r.2 f rest).1.out⟩, (evalO env r.2 f rest).2)
            | _ => rend r) =
          rend (match r.1.out with
            | .fell => (⟨r.1.acts ++ (evalO env r.2 f rest).1.acts, (evalO env r.2 f rest).1.out⟩, (evalO env r.2 f rest).2)
            | _ => r) := by
        intro r; cases r.1.out <;> simp only [rend, ObsRes.render, List.map_append]
      cases s
      all_goals simp only [evalS, evalO, ih, rend_out, rend_acts, rend_snd]
      case ifThen c body =>
        rcases evalE env st f c with _ | _ | _
        · rfl
        · rfl
        · exact fin _
      case ifElse c a b =>
        rcases evalE env st f c with _ | _ | _
        · rfl
        · exact fin _
        · exact fin _
      case switchOn m cases dflt =>
        cases env.i m with
        | none => rfl
        | some v => simp only []; cases List.find? (fun c => c.1.contains v) cases <;> exact fin _
      case scope var body =>
        cases (evalO env st f body).1.out with
        | ret w => simp only []; repeat' split
                   all_goals simp only [rend, ObsRes.render, List.map_append]
        | _ => simp only [rend, ObsRes.render, List.map_append]
      case retExp c => rcases evalE env st f c with _ | _ | _ <;> rfl
      case assign nm c => cases evalE env st f c <;> rfl
      case act w => simp only [rend, ObsRes.render, List.map_cons, label_obs]
      case «opaque» w => split <;> rfl
      all_goals rfl

def observe (env : Env) (p : GProg) : ObsRes := (evalO env env.b 64 p).1

theorem run_eq_render (env : Env) (p : GProg) : run env p = (observe env p).render :=
  congrArg Prod.fst (evalS_eq_evalO env 64 env.b p)

end WS.Model.Guard
