import WS.Model.IntPred
import WS.Proofs.Agree
/-
  An integer-predicate program depends on its argument only through comparisons with the constants it mentions
  (`IntPred.eval_agree`); in particular beyond all of them the result no longer changes (`eval_above`, `eval_below`).
  With this, "the regenerated program equals the model on every integer" follows from a kernel evaluation on the
  representatives of `WS.Model.Guard.exists_rep` — whatever shape the regenerated program has.  `within` / `consts_within` bound the
  constants by a window; `allIn` is the bounded ∀ in which `C06.gen_validWire_on_window` is stated.
-/
namespace WS.Model
open Guard (Agree contains_agree agree_outside)

/-- the constants a condition / statement / program compares its argument with. -/
def ICond.consts : ICond → List Int
  | .ge k | .le k | .gt k | .lt k | .eq k | .ne k => [k]
  | .and a b | .or a b => a.consts ++ b.consts
  | .not a => a.consts
  | .tt | .ff => []

def IStmt.consts : IStmt → List Int
  | .switchRet cs _ => cs
  | .ifRet c _ | .retCond c => c.consts
  | .ret _ | .unknown _ => []

def IntPred.consts : IntPred → List Int
  | [] => []
  | s :: rest => s.consts ++ consts rest

theorem ICond.eval_agree {x y : Int} (c : ICond) (h : Agree c.consts x y) : c.eval x = c.eval y := by
  induction c with
  | ge k | le k | gt k | lt k | eq k | ne k =>
    have := h k (List.mem_singleton_self k)
    simp only [ICond.eval, decide_eq_decide]; omega
  | and a b iha ihb | or a b iha ihb => simp only [ICond.eval, iha h.left, ihb h.right]
  | not a iha => simp only [ICond.eval, iha h]
  | tt | ff => rfl

theorem IntPred.eval_agree {x y : Int} : ∀ p : IntPred, Agree p.consts x y → p.eval x = p.eval y
  | [], _ => rfl
  | s :: rest, h => by
    have ih := eval_agree rest h.right
    cases s with
    | switchRet cs r => simp only [IntPred.eval, contains_agree (ks := cs) h.left, ih]
    | ifRet c r => simp only [IntPred.eval, c.eval_agree (h.left : Agree c.consts x y), ih]
    | retCond c => simp only [IntPred.eval, c.eval_agree (h.left : Agree c.consts x y)]
    | ret _ | unknown _ => rfl

/-- every constant lies in `[lo, hi]` (decidable, so that a window can be checked by evaluation). -/
def ICond.within (lo hi : Int) : ICond → Bool
  | .ge k | .le k | .gt k | .lt k | .eq k | .ne k => decide (lo ≤ k) && decide (k ≤ hi)
  | .and a b | .or a b => a.within lo hi && b.within lo hi
  | .not a => a.within lo hi
  | .tt | .ff => true

def IStmt.within (lo hi : Int) : IStmt → Bool
  | .switchRet cs _ => cs.all (fun k => decide (lo ≤ k) && decide (k ≤ hi))
  | .ifRet c _ => c.within lo hi
  | .ret _ => true
  | .retCond c => c.within lo hi
  | .unknown _ => true

def IntPred.within (lo hi : Int) (p : IntPred) : Bool := p.all (IStmt.within lo hi)

theorem ICond.consts_within {lo hi : Int} (c : ICond) (h : c.within lo hi = true) : ∀ k ∈ c.consts, lo ≤ k ∧ k ≤ hi := by
  induction c with
  | ge k | le k | gt k | lt k | eq k | ne k => simpa [ICond.within, ICond.consts] using h
  | and a b iha ihb | or a b iha ihb =>
    simp only [ICond.within, Bool.and_eq_true] at h
    simp only [ICond.consts, List.mem_append]
    exact fun k hk => hk.elim (iha h.1 k) (ihb h.2 k)
  | not a iha => exact iha h
  | tt | ff => exact fun _ hk => nomatch hk

theorem IntPred.consts_within {lo hi : Int} : ∀ p : IntPred, p.within lo hi = true → ∀ k ∈ p.consts, lo ≤ k ∧ k ≤ hi
  | [], _ => fun _ hk => nomatch hk
  | s :: rest, h => by
    simp only [IntPred.within, List.all_cons, Bool.and_eq_true] at h
    simp only [IntPred.consts, List.mem_append]
    refine fun k hk => hk.elim (fun hk => ?_) (consts_within rest h.2 k)
    cases s with
    | switchRet cs r => simpa using List.all_eq_true.1 h.1 k hk
    | ifRet c r | retCond c => exact c.consts_within h.1 k hk
    | ret _ | unknown _ => nomatch hk

theorem ICond.eval_below {lo hi : Int} (c : ICond) (h : c.within lo hi = true) (x y : Int) (hx : x < lo) (hy : y < lo) :
    c.eval x = c.eval y :=
  c.eval_agree (agree_outside (c.consts_within h) (.inr ⟨hx, hy⟩))

theorem IntPred.eval_above {lo hi : Int} (p : IntPred) (h : p.within lo hi = true) (x y : Int) (hx : hi < x) (hy : hi < y) :
    p.eval x = p.eval y :=
  p.eval_agree (agree_outside (p.consts_within h) (.inl ⟨hx, hy⟩))

theorem IntPred.eval_below {lo hi : Int} (p : IntPred) (h : p.within lo hi = true) (x y : Int) (hx : x < lo) (hy : y < lo) :
    p.eval x = p.eval y :=
  p.eval_agree (agree_outside (p.consts_within h) (.inr ⟨hx, hy⟩))

/-- `f` holds on [lo, lo + n), by binary splitting (the form in which `C06.gen_validWire_on_window` speaks of a window). -/
def allIn (f : Nat → Bool) : Nat → Nat → Nat → Bool
  | 0, lo, n => (List.range n).all (fun i => f (lo + i))
  | fuel + 1, lo, n =>
    if n ≤ 4 then (List.range n).all (fun i => f (lo + i))
    else allIn f fuel lo (n / 2) && allIn f fuel (lo + n / 2) (n - n / 2)

theorem allIn_of_forall {f : Nat → Bool} (h : ∀ i, f i = true) : ∀ fuel lo n, allIn f fuel lo n = true
  | 0, _, _ => by simp [allIn, h]
  | fuel + 1, lo, n => by
    simp only [allIn, allIn_of_forall h fuel, Bool.and_self, ite_eq_right_iff]
    simp [h]

end WS.Model
