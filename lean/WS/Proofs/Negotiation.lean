import WS.Proofs.HandshakeE2E
import WS.Props.HandshakeDefs
/-
  C14 (permessage-deflate negotiation): the inner loops of acceptDeflate, selectDeflate and
  verifyServerExtensions characterised; then, for a header that carries no extension or exactly what
  `coptsString` renders, what the extension parser, the server's selection and the client's check
  make of it (`exts_rendered`, `select_rendered`, `verify_rendered`).
-/
namespace WS.Proofs.Negotiation
open WS WS.Model WS.Props.C14 WS.Proofs.HandshakeE2E

theorem prefix_contains_eq_any (pre p : Str) (vals : List Str) :
    (hasPrefix pre p && vals.contains (p.drop pre.length)) = vals.any (fun v => p == pre ++ v) := by
  rw [Bool.eq_iff_iff]
  simp only [hasPrefix, Bool.and_eq_true, List.isPrefixOf_iff_prefix, List.contains_iff_mem,
    List.any_eq_true, beq_iff_eq]
  constructor
  · rintro ⟨⟨t, rfl⟩, ht⟩
    rw [List.drop_left] at ht
    exact ⟨t, ht, rfl⟩
  · rintro ⟨v, hv, rfl⟩
    exact ⟨List.prefix_append _ _, by rw [List.drop_left]; exact hv⟩

/-- what `acceptDeflate.go` accepts: with the parameter names in `seen` already met and the options `c` so far, the
parameters `ps` are all honourable, repeat no name (among themselves or from `seen`), and lead to the options `c'`. -/
def AcceptDeflateSpec (ps seen : List Str) (c c' : Copts) : Prop :=
  OfferOK ps ∧ (∀ p ∈ ps, paramName p ∉ seen) ∧
  c' = { cnct := c.cnct || ps.contains pCNCT, snct := c.snct || ps.contains pSNCT }

theorem AcceptDeflateSpec_cons (p : Str) (ps seen : List Str) (c c' : Copts) :
    AcceptDeflateSpec (p :: ps) seen c c' ↔
      paramOK p = true ∧ paramName p ∉ seen ∧
      AcceptDeflateSpec ps (paramName p :: seen) { cnct := c.cnct || p == pCNCT, snct := c.snct || p == pSNCT } c' := by
  unfold AcceptDeflateSpec OfferOK
  simp only [List.mem_cons, List.map_cons, List.nodup_cons, List.contains_cons, List.mem_map,
    Bool.beq_comm (a := pCNCT), Bool.beq_comm (a := pSNCT), Bool.or_assoc]
  -- the same conjuncts on both sides, grouped differently
  grind

theorem acceptDeflate_go_iff (ps seen : List Str) (c c' : Copts) :
    acceptDeflate.go ps seen c = some c' ↔ AcceptDeflateSpec ps seen c c' := by
  -- one case per branch of the loop, which tests the alternatives of `paramOK` in the order of its definition
  fun_induction acceptDeflate.go ps seen c
  case case1 => simp [AcceptDeflateSpec, OfferOK]; exact eq_comm
  all_goals rw [AcceptDeflateSpec_cons]
  -- the two flags, where `p` is known (`+zetaDelta`: the loop's `let seen := …` arrives as a local definition)
  case case3 h _ => cases eq_of_beq h; simp_all +zetaDelta [paramOK, pCNCT, pSNCT, s_beq]
  case case4 h _ => cases eq_of_beq h; simp_all +zetaDelta [paramOK, pCNCT, pSNCT, s_beq]
  all_goals simp_all +zetaDelta [paramOK, pCNCT, pSNCT, ← prefix_contains_eq_any, beq_false_of_ne]

theorem selectDeflate_go_eq (mode : Nat) (exts : List Ext) :
    selectDeflate.go mode exts =
      (exts.filter (fun e => e.name == pmd)).findSome? (fun e => acceptDeflate e mode) := by
  fun_induction selectDeflate.go mode exts <;> simp_all [pmd]

theorem verifyServerExtensions_go_iff (ps : List Str) (c c' : Copts) :
    verifyServerExtensions.go ps c = .ok (some c') ↔
      (∀ p ∈ ps, p = pCNCT ∨ p = pSNCT ∨ hasPrefix (s "server_max_window_bits=") p = true) ∧
      c' = { cnct := c.cnct || ps.contains pCNCT, snct := c.snct || ps.contains pSNCT } := by
  fun_induction verifyServerExtensions.go ps c <;> simp_all [pCNCT, pSNCT, s_inj]
  -- left: the empty list (the equation the other way round) and a window-bits parameter, which is neither flag
  case case1 => exact eq_comm
  case case4 h1 h2 _ _ => simp [Ne.symm h1, Ne.symm h2]

theorem verify_go_ne_none (ps : List Str) (c : Copts) :
    verifyServerExtensions.go ps c ≠ .ok none := by
  fun_induction verifyServerExtensions.go ps c <;> simp_all

/-! ### reading a header: nothing, or what `coptsString` wrote -/

theorem exts_absent {h : Hdr} (hv : h.values (s "Sec-Websocket-Extensions") = []) : websocketExtensions h = [] := by
  simp [websocketExtensions, headerTokens, hv]

theorem verify_no_extension (c0 : Option Copts) {h : Hdr} (he : websocketExtensions h = []) :
    verifyServerExtensions c0 h = .ok none := by
  unfold verifyServerExtensions
  rw [he]

theorem verify_no_offer {h : Hdr} {r : Option Copts} (hv : verifyServerExtensions none h = .ok r) :
    r = none ∧ websocketExtensions h = [] := by
  unfold verifyServerExtensions at hv
  split at hv
  · exact ⟨by simpa [eq_comm] using hv, ‹_›⟩
  · simp at hv
  · simp at hv

/-- the parameters `coptsString` writes. -/
def flagParams (c : Copts) : List Str := (if c.cnct then [pCNCT] else []) ++ (if c.snct then [pSNCT] else [])

theorem flagParams_spec : ∀ a b : Bool, OfferOK (flagParams ⟨a, b⟩) ∧
    (flagParams ⟨a, b⟩).contains pCNCT = a ∧ (flagParams ⟨a, b⟩).contains pSNCT = b := by
  unfold OfferOK
  decide +kernel

theorem exts_rendered {h : Hdr} {c : Copts} (hv : h.values (s "Sec-Websocket-Extensions") = [coptsString c]) :
    websocketExtensions h = [{ name := pmd, params := flagParams c }] := by
  simp only [websocketExtensions, headerTokens, hv]
  obtain ⟨a, b⟩ := c
  clear hv
  revert a b
  decide +kernel

theorem select_rendered {h : Hdr} {c0 : Copts} (hv : h.values (s "Sec-Websocket-Extensions") = [coptsString c0])
    (mode : Nat) :
    selectDeflate (websocketExtensions h) mode =
      if mode = 0 then none else some { cnct := mode == 2 || c0.cnct, snct := mode == 2 || c0.snct } := by
  obtain ⟨a, b⟩ := c0
  obtain ⟨hok, hc, hs⟩ := flagParams_spec a b
  have ha : acceptDeflate ⟨pmd, flagParams ⟨a, b⟩⟩ mode =
      some { cnct := mode == 2 || a, snct := mode == 2 || b } :=
    (acceptDeflate_go_iff ..).2 ⟨hok, by simp, by rw [hc, hs]; rfl⟩
  simp [exts_rendered hv, selectDeflate, selectDeflate_go_eq, ha]

theorem verify_rendered {h : Hdr} (c0 : Copts) {c : Copts}
    (hv : h.values (s "Sec-Websocket-Extensions") = [coptsString c]) :
    verifyServerExtensions (some c0) h = .ok (some { cnct := c0.cnct || c.cnct, snct := c.snct }) := by
  simp only [verifyServerExtensions, exts_rendered hv]
  rcases c with ⟨_ | _, _ | _⟩ <;> simp [flagParams, verifyServerExtensions.go, pmd, pCNCT, pSNCT, s_inj]

end WS.Proofs.Negotiation
