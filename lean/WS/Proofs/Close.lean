import WS.Model.Close
/-
  Close payloads (C06, C02): the range characterisation of validWireCloseCode, the two bytes
  `closePayload` puts before the reason, parseClosePayload ∘ closePayload, and when
  `closeBytesErr` marshals.
-/
namespace WS.Proofs.Close
open WS WS.Model

theorem validWire_arith (code : Int) :
    validWireCloseCode code = true ↔
      ((1000 ≤ code ∧ code ≤ 1014 ∧ code ≠ 1004 ∧ code ≠ 1005 ∧ code ≠ 1006) ∨
        (3000 ≤ code ∧ code ≤ 4999)) := by
  unfold validWireCloseCode
  repeat' split
  all_goals simp only [Bool.false_eq_true, false_iff, true_iff]
  all_goals omega

theorem closePayload_length (code : Int) (reason : Bytes) :
    (closePayload code reason).length = 2 + reason.length := by
  simp [closePayload, be16]; omega

theorem closePayload_valid (code : Int) (reason : Bytes) (h : validWireCloseCode code = true) :
    ∃ b0 b1 : UInt8, closePayload code reason = b0 :: b1 :: reason ∧
      ((b0.toNat * 256 + b1.toNat : Nat) : Int) = code := by
  have hr : 1000 ≤ code ∧ code ≤ 4999 := by have := (validWire_arith code).1 h; omega
  refine ⟨_, _, rfl, ?_⟩
  rw [UInt8.toNat_ofNat', UInt8.toNat_ofNat']
  omega

theorem parse_closePayload (code : Int) (reason : Bytes) (h : validWireCloseCode code = true) :
    parseClosePayload (closePayload code reason) = .ok code reason := by
  obtain ⟨b0, b1, e, hc⟩ := closePayload_valid code reason h
  simp only [e, parseClosePayload, hc, h, if_true]

theorem closeBytesErr_eq_some {code : Int} {reason p : Bytes} :
    closeBytesErr code reason = some p ↔
      reason.length ≤ maxCloseReason ∧ validWireCloseCode code = true ∧ closePayload code reason = p := by
  unfold closeBytesErr
  split
  · simp; omega
  · split <;> simp_all <;> omega

theorem closeBytesErr_eq_none {code : Int} {reason : Bytes} :
    closeBytesErr code reason = none ↔
      maxCloseReason < reason.length ∨ validWireCloseCode code = false := by
  unfold closeBytesErr
  split
  · simp [*]
  · split <;> simp_all <;> omega

end WS.Proofs.Close
