import WS.Model.MaskProg
import Std.Tactic.BVDecide
/-
  C17: the word-level interpreter of a well-formed mask program computes the byte-level
  specification (`wf_correct`).

  Everything about keys goes through `keyByte`: it has period 4 (`keyByte_congr`), a key is its
  four bytes (`key_ext`), and rotating moves the bytes down (`keyByte_rotrBytes`).  Everything about
  chunks goes through `maskFrom_append` and `maskFrom_congr_mod`: a chunk that starts at a multiple
  of 4 is masked like a buffer of its own (`maskFrom_append_aligned`), which is why word loops work.
-/
namespace WS.Proofs.Mask
open WS WS.Model WS.Spec

theorem keyByte_congr (key : UInt32) {i j : Nat} (h : i % 4 = j % 4) : keyByte key i = keyByte key j := by
  unfold keyByte; rw [h]

theorem keyByte_mod (key : UInt32) (j : Nat) : keyByte key (j % 4) = keyByte key j :=
  keyByte_congr key (Nat.mod_mod j 4)

theorem key_ext {a b : UInt32} (h : ∀ j, keyByte a j = keyByte b j) : a = b := by
  cases a with | ofBitVec a =>
  cases b with | ofBitVec b =>
  congr 1
  apply BitVec.eq_of_getLsbD_eq
  intro i hi
  -- bit `i` is bit `i % 8` of byte `i / 8`
  have := congrArg (fun x : UInt8 => x.toBitVec.getLsbD (i % 8)) (h (i / 8))
  simp only [keyByte, BitVec.getLsbD_extractLsb'] at this
  have e : 8 * (i / 8 % 4) + i % 8 = i := by omega
  simpa [e, Nat.mod_lt] using this

theorem keyByte_rotr8 (key : UInt32) (j : Nat) : keyByte (rotr8 key) j = keyByte key (j + 1) := by
  cases key with | ofBitVec k =>
  unfold keyByte rotr8
  congr 1
  apply BitVec.eq_of_getLsbD_eq
  intro i hi
  simp only [BitVec.getLsbD_extractLsb', BitVec.getLsbD_or, BitVec.getLsbD_ushiftRight,
    BitVec.getLsbD_shiftLeft, hi, decide_true, Bool.true_and]
  -- byte 3 comes from the left shift, the others from the right shift
  by_cases h : j % 4 = 3
  · have e : (j + 1) % 4 = 0 := by omega
    simp [h, e, BitVec.getLsbD_of_ge k (8 + (24 + i)) (by omega)]
    omega
  · have e : 8 * ((j + 1) % 4) + i = 8 + (8 * (j % 4) + i) := by omega
    have : 8 * (j % 4) + i < 24 := by omega
    simp [e, this]

theorem rotrBytes_succ (key : UInt32) (n : Nat) : rotrBytes key (n + 1) = rotr8 (rotrBytes key n) := by
  induction n generalizing key with
  | zero => rfl
  | succ n ih => simp only [rotrBytes] at *; exact ih _

theorem keyByte_rotrBytes (key : UInt32) (n j : Nat) :
    keyByte (rotrBytes key n) j = keyByte key (j + n) := by
  induction n generalizing j with
  | zero => rfl
  | succ n ih => rw [rotrBytes_succ, keyByte_rotr8, ih, Nat.add_right_comm, Nat.add_assoc]

theorem rotrBytes_congr (key : UInt32) {n m : Nat} (h : n % 4 = m % 4) : rotrBytes key n = rotrBytes key m :=
  key_ext fun j => by rw [keyByte_rotrBytes, keyByte_rotrBytes]; exact keyByte_congr key (by omega)

theorem rotr8_four (key : UInt32) : rotr8 (rotr8 (rotr8 (rotr8 key))) = key :=
  rotrBytes_congr key (n := 4) (m := 0) rfl

theorem rotrBytes_add (key : UInt32) (n m : Nat) : rotrBytes (rotrBytes key n) m = rotrBytes key (n + m) :=
  key_ext fun j => by rw [keyByte_rotrBytes, keyByte_rotrBytes, keyByte_rotrBytes, Nat.add_assoc, Nat.add_comm m]

theorem maskFrom_length (key : UInt32) (i : Nat) (b : Bytes) : (maskFrom key i b).length = b.length := by
  induction b generalizing i with
  | nil => rfl
  | cons x xs ih => simp [maskFrom, ih]

theorem maskFrom_append (key : UInt32) (i : Nat) (a b : Bytes) :
    maskFrom key i (a ++ b) = maskFrom key i a ++ maskFrom key (i + a.length) b := by
  induction a generalizing i with
  | nil => simp [maskFrom]
  | cons x xs ih =>
    simp only [List.cons_append, maskFrom, List.length_cons, ih]
    have : i + 1 + xs.length = i + (xs.length + 1) := by omega
    rw [this]

theorem maskFrom_getElem? (key : UInt32) (i : Nat) (b : Bytes) (n : Nat) :
    (maskFrom key i b)[n]? = (b[n]?).map (fun x => x ^^^ keyByte key (i + n)) := by
  induction b generalizing i n with
  | nil => simp [maskFrom]
  | cons x xs ih =>
    cases n with
    | zero => simp [maskFrom]
    | succ n =>
      simp only [maskFrom, List.getElem?_cons_succ, ih]
      have : i + 1 + n = i + (n + 1) := by omega
      rw [this]

theorem maskFrom_involutive (key : UInt32) (i : Nat) (b : Bytes) :
    maskFrom key i (maskFrom key i b) = b := by
  induction b generalizing i with
  | nil => rfl
  | cons x xs ih => simp only [maskFrom, ih, UInt8.xor_assoc, UInt8.xor_self, UInt8.xor_zero]

theorem maskFrom_congr {k k' : UInt32} {i j : Nat} (h : ∀ n, keyByte k (i + n) = keyByte k' (j + n)) (b : Bytes) :
    maskFrom k i b = maskFrom k' j b :=
  List.ext_getElem? fun n => by rw [maskFrom_getElem?, maskFrom_getElem?, h n]

theorem maskFrom_congr_mod (key : UInt32) (b : Bytes) (i j : Nat) (h : i % 4 = j % 4) :
    maskFrom key i b = maskFrom key j b :=
  maskFrom_congr (fun _ => keyByte_congr key (by omega)) b

theorem maskFrom_rotrBytes (key : UInt32) (n i : Nat) (b : Bytes) :
    maskFrom (rotrBytes key n) i b = maskFrom key (i + n) b :=
  maskFrom_congr (fun m => by rw [keyByte_rotrBytes, Nat.add_right_comm]) b

theorem maskFrom_append_aligned (key : UInt32) (a b : Bytes) (h : a.length % 4 = 0) :
    maskFrom key 0 (a ++ b) = maskFrom key 0 a ++ maskFrom key 0 b := by
  rw [maskFrom_append, maskFrom_congr_mod key b (0 + a.length) 0 (by omega)]

theorem runTail_eq (b : Bytes) (key : UInt32) :
    runTail b key = (maskFrom key 0 b, rotrBytes key b.length) := by
  induction b generalizing key with
  | nil => rfl
  | cons x xs ih =>
    simp only [runTail, ih, maskFrom, List.length_cons, rotrBytes]
    rw [← maskFrom_rotrBytes key 1 0 xs]
    rfl

theorem key64_eq (k : BitVec 32) : (k.setWidth 64 <<< 32) ||| k.setWidth 64 = k ++ k := by
  rw [BitVec.append_def, BitVec.shiftLeftZeroExtend_eq]; rfl

theorem word64 (m : Bytes) (hm : m.length = 8) (key : UInt32) :
    store64 (load64 m ^^^ key64 key) = maskFrom key 0 m := by
  match m, hm with
  | [⟨b0⟩, ⟨b1⟩, ⟨b2⟩, ⟨b3⟩, ⟨b4⟩, ⟨b5⟩, ⟨b6⟩, ⟨b7⟩], _ =>
    cases key with | ofBitVec k =>
    simp only [store64, load64, key64, key64_eq, maskFrom, keyByte, List.cons.injEq, ← UInt8.toBitVec_inj,
      UInt8.toBitVec_xor, and_true]
    -- once `key64` is `k ++ k` (`key64_eq`), `bv_decide` closes each byte equation by normalisation alone
    and_intros <;> bv_decide

theorem word32 (m : Bytes) (hm : m.length = 4) (key : UInt32) :
    store32 (load32 m ^^^ key.toBitVec) = maskFrom key 0 m := by
  match m, hm with
  | [⟨b0⟩, ⟨b1⟩, ⟨b2⟩, ⟨b3⟩], _ =>
    cases key with | ofBitVec k =>
    simp only [store32, load32, maskFrom, keyByte, List.cons.injEq, ← UInt8.toBitVec_inj,
      UInt8.toBitVec_xor, and_true]
    and_intros <;> bv_decide

theorem wordOk_iff (pos : Nat) (w : WordXor) :
    wordOk pos w = true ↔ w.ll = pos ∧ w.sl = pos ∧ w.lh = pos + w.width ∧ w.sh = pos + w.width ∧
      (w.width = 8 ∧ w.k = .key64 ∨ w.width = 4 ∧ w.k = .key32) := by
  simp [wordOk, and_assoc]

theorem wordsTile_cons (pos : Nat) (w : WordXor) (ws : List WordXor) (e : Nat) :
    wordsTile pos (w :: ws) = some e ↔ wordOk pos w = true ∧ wordsTile (pos + w.width) ws = some e := by
  rw [wordsTile]; split <;> simp [*]

theorem runWord_ok (w : WordXor) (pre m1 rest : Bytes) (key : UInt32)
    (hok : wordOk pre.length w = true) (hm : m1.length = w.width) :
    runWord w (pre ++ m1 ++ rest) key = some (pre ++ maskFrom key 0 m1 ++ rest) := by
  obtain ⟨hll, hsl, hlh, hsh, hk⟩ := (wordOk_iff _ _).1 hok
  have hsrc : ((pre ++ m1 ++ rest).drop w.ll).take w.width = m1 := by
    rw [hll, List.append_assoc, List.drop_left, ← hm, List.take_left]
  have htk : (pre ++ m1 ++ rest).take w.sl = pre := by
    rw [hsl, List.append_assoc, List.take_left]
  have hdr : (pre ++ m1 ++ rest).drop (w.sl + w.width) = rest := by
    rw [hsl, ← hm, ← List.length_append, List.drop_left]
  unfold runWord
  rw [if_pos (by simp only [List.length_append]; omega)]
  simp only [hsrc, htk, hdr]
  rcases hk with ⟨h8, hk⟩ | ⟨h4, hk⟩
  · rw [h8, hk]; simp [word64 m1 (by omega), maskFrom_length, hm, h8]
  · rw [h4, hk]; simp [word32 m1 (by omega), maskFrom_length, hm, h4]

theorem wordsTile_ge : ∀ (ws : List WordXor) (pos e : Nat), wordsTile pos ws = some e →
    pos ≤ e ∧ (pos % 4 = 0 → e % 4 = 0)
  | [], pos, e, h => by cases h; exact ⟨Nat.le_refl _, id⟩
  | w :: ws, pos, e, h => by
    obtain ⟨hok, h⟩ := (wordsTile_cons ..).1 h
    obtain ⟨_, _, _, _, hk⟩ := (wordOk_iff ..).1 hok
    have := wordsTile_ge ws _ _ h
    omega

theorem runWords_tile : ∀ (ws : List WordXor) (pre mid post : Bytes) (key : UInt32) (e : Nat),
    wordsTile pre.length ws = some e → pre.length + mid.length = e →
    runWords ws (pre ++ mid ++ post) key = some (pre ++ maskFrom key 0 mid ++ post)
  | [], pre, mid, post, key, e, h, hl => by
    cases h
    cases List.eq_nil_of_length_eq_zero (show mid.length = 0 by omega)
    simp [runWords, maskFrom]
  | w :: ws, pre, mid, post, key, e, h, hl => by
    obtain ⟨hok, h⟩ := (wordsTile_cons ..).1 h
    have hw : w.width % 4 = 0 ∧ w.width ≤ mid.length := by
      have := (wordOk_iff ..).1 hok
      have := (wordsTile_ge _ _ _ h).1
      omega
    have hm1 : (mid.take w.width).length = w.width := by rw [List.length_take]; omega
    have hlen : (pre ++ maskFrom key 0 (mid.take w.width)).length = pre.length + w.width := by
      rw [List.length_append, maskFrom_length, hm1]
    rw [← List.take_append_drop w.width mid, ← List.append_assoc pre, List.append_assoc _ _ post, runWords,
      runWord_ok w pre _ _ key hok hm1, Option.bind_some, ← List.append_assoc,
      runWords_tile ws _ (mid.drop w.width) post key e (hlen ▸ h) (by rw [hlen, List.length_drop]; omega),
      maskFrom_append_aligned _ _ _ (by omega), List.append_assoc pre]

/-- the interpreter has passed over a prefix whose length is a multiple of 4 and has masked it. -/
def SInv (orig : Bytes) (key : UInt32) (s : MState) : Prop :=
  ∃ m, m % 4 = 0 ∧ m ≤ orig.length ∧ s.done = maskFrom key 0 (orig.take m) ∧ s.b = orig.drop m ∧ s.key = key

theorem SInv.advance {orig : Bytes} {key : UInt32} {s : MState} (hs : SInv orig key s) {adv : Nat}
    (h4 : adv % 4 = 0) (hb : adv ≤ s.b.length) :
    SInv orig key { s with done := s.done ++ maskFrom s.key 0 (s.b.take adv), b := s.b.drop adv } := by
  obtain ⟨m, hm4, hmle, hdone, hb', hkey⟩ := hs
  have hl : s.b.length = orig.length - m := by rw [hb', List.length_drop]
  refine ⟨m + adv, by omega, by omega, ?_, by simp only; rw [hb', List.drop_drop], hkey⟩
  simp only
  rw [hdone, hkey, hb', List.take_add, maskFrom_append_aligned _ _ _ (by rw [List.length_take]; omega)]

theorem loop_inv (orig : Bytes) (key : UInt32) (n : Nat) (words : List WordXor) (adv : Nat)
    (hwf : stmtWF (.loop n words adv) = true) :
    ∀ (fuel : Nat) (s : MState), SInv orig key s →
      ∃ s', runLoop n words adv fuel s = some s' ∧ SInv orig key s' := by
  simp only [stmtWF, Bool.and_eq_true, beq_iff_eq, decide_eq_true_eq] at hwf
  obtain ⟨⟨htile, hadv⟩, hpos⟩ := hwf
  have hadv4 : adv % 4 = 0 := (wordsTile_ge _ _ _ htile).2 rfl
  intro fuel
  induction fuel with
  | zero => exact fun s hs => ⟨s, rfl, hs⟩
  | succ fuel ih =>
    intro s hs
    rw [runLoop]
    split
    · have hb : adv ≤ s.b.length := by omega
      have htl : (s.b.take adv).length = adv := by rw [List.length_take]; omega
      have hM : (maskFrom s.key 0 (s.b.take adv)).length = adv := by rw [maskFrom_length, htl]
      have := runWords_tile words [] (s.b.take adv) (s.b.drop adv) s.key adv htile (by rw [htl]; exact Nat.zero_add _)
      rw [List.nil_append, List.take_append_drop] at this
      rw [this]
      simp only [List.nil_append]
      rw [if_pos ⟨by rw [List.length_append, hM]; omega, hpos⟩, List.take_left' hM, List.drop_left' hM]
      exact ih _ (hs.advance hadv4 hb)
    · exact ⟨s, rfl, hs⟩

mutual
theorem stmt_inv (orig : Bytes) (key : UInt32) : ∀ (st : MStmt) (s : MState),
    stmtWF st = true → SInv orig key s → ∃ s', runStmt st s = some s' ∧ SInv orig key s'
  | .ifGe n body, s, hwf, hs => by
    simp only [stmtWF] at hwf
    simp only [runStmt]
    split
    · exact stmts_inv orig key body s hwf hs
    · exact ⟨s, rfl, hs⟩
  | .loop n words adv, s, hwf, hs => by
    simp only [runStmt]
    exact loop_inv orig key n words adv hwf _ s hs
  | .once n words adv, s, hwf, hs => by
    simp only [runStmt]
    exact loop_inv orig key n words adv (by simpa [stmtWF] using hwf) 1 s hs
  | .tail, _, hwf, _ => by simp [stmtWF] at hwf
  | .unknown _, _, hwf, _ => by simp [stmtWF] at hwf
theorem stmts_inv (orig : Bytes) (key : UInt32) : ∀ (sts : List MStmt) (s : MState),
    stmtsWF sts = true → SInv orig key s → ∃ s', runStmts sts s = some s' ∧ SInv orig key s'
  | [], s, _, hs => ⟨s, rfl, hs⟩
  | st :: rest, s, hwf, hs => by
    simp only [stmtsWF, Bool.and_eq_true] at hwf
    obtain ⟨s1, h1, hs1⟩ := stmt_inv orig key st s hwf.1 hs
    obtain ⟨s2, h2, hs2⟩ := stmts_inv orig key rest s1 hwf.2 hs1
    exact ⟨s2, by simp [runStmts, h1, h2], hs2⟩
end

theorem runStmts_append (a b : List MStmt) (s : MState) :
    runStmts (a ++ b) s = (runStmts a s).bind (runStmts b) := by
  induction a generalizing s with
  | nil => simp [runStmts]
  | cons st rest ih =>
    simp only [List.cons_append, runStmts]
    cases runStmt st s with
    | none => rfl
    | some s1 => simp [ih]

theorem wf_correct (p : MaskProg) (hwf : wellFormed p = true) (b : Bytes) (key : UInt32) :
    runMask p b key = some (Spec.mask key b) := by
  unfold wellFormed at hwf
  split at hwf
  · rename_i revInit hrev
    have hp : p = revInit.reverse ++ [.tail] := by
      have := congrArg List.reverse hrev
      simpa using this
    obtain ⟨s1, h1, m, hm4, hmle, hdone, hb, hkey⟩ :=
      stmts_inv b key revInit.reverse { done := [], b := b, key := key } hwf
        ⟨0, rfl, Nat.zero_le _, by simp [maskFrom], by simp, rfl⟩
    unfold runMask
    rw [hp, runStmts_append, h1]
    simp only [Option.bind, runStmts, runStmt, runTail_eq, Option.map, List.append_nil]
    unfold Spec.mask
    rw [hdone, hb, hkey, ← maskFrom_append_aligned _ _ _ (by rw [List.length_take]; omega), List.take_append_drop,
      rotrBytes_congr key (n := (b.drop m).length) (m := b.length % 4) (by rw [List.length_drop]; omega)]
  · simp at hwf

end WS.Proofs.Mask
