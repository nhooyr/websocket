import WS.Model.Guard
import WS.Proofs.Agree
/-
  The value of a decision skeleton depends on an integer atom only through the comparisons the program makes: two values
  that stand in the same relation (below / equal / above) to every constant of the program give the same run.  This turns
  an obligation checked on "every constant of the comparisons and its neighbours" into a statement about every integer.
-/
namespace WS.Model.Guard

mutual
/-- all integer constants a statement compares an integer atom with (comparisons and switch cases). -/
def constsS : GStmt → List Int
  | .ifThen c b => constsE c ++ constsL b
  | .ifElse c a b => constsE c ++ constsL a ++ constsL b
  | .switchOn _ cases d => constsC cases ++ constsL d
  | .retExp c => constsE c
  | .assign _ c => constsE c
  | .scope _ b => constsL b
  | _ => []
def constsL : List GStmt → List Int
  | [] => []
  | s :: r => constsS s ++ constsL r
def constsC : List (List Int × List GStmt) → List Int
  | [] => []
  | (ks, b) :: r => ks ++ constsL b ++ constsC r
def constsE : GExp → List Int
  | .eq _ k | .ne _ k | .lt _ k | .le _ k | .gt _ k | .ge _ k => [k]
  | .not a => constsE a
  | .and a b | .or a b => constsE a ++ constsE b
  | _ => []
end

/-- the environment with the integer atom `n` set to `x`. -/
def Env.setI (e : Env) (n : String) (x : Int) : Env := { e with i := fun m => if m = n then some x else e.i m }

theorem setI_i (e : Env) (n m : String) (x : Int) : (e.setI n x).i m = if m = n then some x else e.i m := rfl

variable {e : Env} {n : String} {x y : Int}

theorem setI_map {α} (m : String) {g : Int → α} (hg : g x = g y) : ((e.setI n x).i m).map g = ((e.setI n y).i m).map g := by
  simp only [setI_i]; split <;> simp [hg]

theorem evalE_far (hfn : ∀ m, e.fn m = none) :
    ∀ (f : Nat) (ex : GExp) (st : Store), Agree (constsE ex) x y →
      evalE (e.setI n x) st f ex = evalE (e.setI n y) st f ex := by
  intro f
  induction f with
  | zero => intros; rfl
  | succ f ih =>
    intro ex st h
    cases ex with
    | tt | ff | v _ | unknown _ => rfl
    | call fn => simp only [evalE, Env.setI, hfn]
    | eq m k | ne m k | lt m k | le m k | gt m k | ge m k =>
      have := h k (List.mem_singleton_self k)
      exact setI_map m (by simp only [decide_eq_decide]; omega)
    | not a => simp only [evalE, ih a st h]
    | and a b | or a b => simp only [evalE, ih a st h.left, ih b st h.right]

/-- the body a `switchOn` selects for the tag value `v`. -/
def pick (cases : List (List Int × List GStmt)) (dflt : List GStmt) (v : Int) : List GStmt :=
  match cases.find? (fun c => c.1.contains v) with
  | some c => c.2
  | none => dflt

theorem pick_agree {dflt} : ∀ {cases : List (List Int × List GStmt)}, Agree (constsC cases) x y → pick cases dflt x = pick cases dflt y
  | [], _ => rfl
  | (ks, b) :: r, h => by
    have ih := pick_agree (dflt := dflt) (cases := r) h.right
    simp only [pick, List.find?_cons, contains_agree h.left.left] at ih ⊢
    cases ks.contains y <;> simp only [ih]

theorem Agree.pick {dflt} (v : Int) (hd : Agree (constsL dflt) x y) :
    ∀ {cases : List (List Int × List GStmt)}, Agree (constsC cases) x y → Agree (constsL (pick cases dflt v)) x y
  | [], _ => hd
  | (ks, b) :: r, h => by
    simp only [Guard.pick, List.find?_cons]
    cases ks.contains v
    · exact Agree.pick v hd (cases := r) h.right
    · exact h.left.right

/-- `evalS`'s local `cont`, by name: go on with `rest` after a body that fell through. -/
def andThen (env : Env) (f : Nat) (rest : List GStmt) (r : Res × Store) : Res × Store :=
  match r.1.out with
  | .fell => let r2 := evalS env r.2 f rest; (⟨r.1.acts ++ r2.1.acts, r2.1.out⟩, r2.2)
  | _ => r

theorem evalS_switchOn (env : Env) (st : Store) (f : Nat) (m : String) (cases dflt rest) :
    evalS env st (f + 1) (.switchOn m cases dflt :: rest) =
      match env.i m with
      | none => (⟨[], .stuck "switch tag"⟩, st)
      | some v => andThen env f rest (evalS env st f (pick cases dflt v)) := by
  simp only [evalS, andThen, pick]
  cases env.i m with
  | none => rfl
  | some v => simp only []; cases List.find? (fun c => c.1.contains v) cases <;> rfl

theorem evalS_far (hfn : ∀ m, e.fn m = none) :
    ∀ (f : Nat) (p : List GStmt) (st : Store), Agree (constsL p) x y →
      evalS (e.setI n x) st f p = evalS (e.setI n y) st f p := by
  intro f
  induction f with
  | zero => intro p st _; cases p <;> rfl
  | succ f ih =>
    intro p st h
    cases p with
    | nil => rfl
    | cons s rest =>
      have hE := fun c => evalE_far (n := n) (x := x) (y := y) hfn f c st
      simp only [constsL] at h
      have hrest := fun st => ih rest st h.right
      -- each statement: the evaluator's equation, rewritten with what is known of the condition, the bodies and the rest
      cases s with
      | ifThen c body =>
        simp only [constsS] at h
        simp only [evalS, hE c h.left.left, ih body st h.left.right, hrest]
      | ifElse c a b =>
        simp only [constsS] at h
        simp only [evalS, hE c h.left.left.left, ih a st h.left.left.right, ih b st h.left.right, hrest]
      | switchOn m cases dflt =>
        simp only [constsS] at h
        have hp := fun v => ih (pick cases dflt v) st (.pick v h.left.right h.left.left)
        simp only [evalS_switchOn, setI_i]
        by_cases hm : m = n
        · simp only [hm, if_true, pick_agree h.left.left, hp, andThen, hrest]
        · cases e.i m <;> simp only [hm, if_false, hp, andThen, hrest]
      | retExp c => simp only [evalS, hE c h.left]
      | assign nm c => simp only [evalS, hE c h.left, hrest]
      | scope var body => simp only [evalS, ih body st h.left, hrest]
      | ret _ | unknown _ => rfl
      | skip => simp only [evalS, hrest]
      | act _ | «opaque» _ => simp only [evalS, hrest]; rfl

/-- Without boolean helper programs in the environment, a run does not distinguish two values of an
integer atom that agree on all constants of the program. -/
theorem run_far (e : Env) (hfn : ∀ m, e.fn m = none) (n : String) (x y : Int) (p : GProg)
    (h : Agree (constsL p) x y) : run (e.setI n x) p = run (e.setI n y) p :=
  congrArg Prod.fst (evalS_far hfn 64 p e.b h)

theorem run_every (hfn : ∀ m, e.fn m = none) (p : GProg) {T : Int → Res} (cs : List Int)
    (hT : ∀ x y, Agree cs x y → T x = T y) (h : ∀ r ∈ reps (constsL p ++ cs), run (e.setI n r) p = T r) (x : Int) :
    run (e.setI n x) p = T x := by
  obtain ⟨r, hr, ha⟩ := exists_rep x (constsL p ++ cs)
  rw [run_far e hfn n x r p ha.left, h r hr, hT x r ha.right]

end WS.Model.Guard
