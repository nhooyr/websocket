import WS.Props.HandshakeDefs
/-
  Helper lemmas for C11 / C12 (handshake decision logic): base64 round trip, the inner loop
  of authenticateOrigin, and the glob matcher on wildcard-free patterns.
-/
namespace WS.Proofs.Handshake
open WS WS.Model WS.Spec WS.Props.C12

theorem b64_facts : ∀ n : Fin 64, b64Val (b64Char n) = some n.val ∧ b64Char n ≠ '=' ∧ b64Char n ≠ '\r' ∧ b64Char n ≠ '\n' := by
  decide +kernel

/-- every character the encoder emits for data is `b64Char (k % 64)`. -/
theorem b64_mod (k : Nat) : b64Val (b64Char (k % 64)) = some (k % 64) ∧ b64Char (k % 64) ≠ '=' ∧
    b64Char (k % 64) ≠ '\r' ∧ b64Char (k % 64) ≠ '\n' :=
  b64_facts ⟨k % 64, Nat.mod_lt k (by decide)⟩

theorem quads_cons (a b c d : Char) (rest : List Char) (hd : d ≠ '=') :
    b64DecodeQuads (a :: b :: c :: d :: rest) = (do
      let x ← b64Val a
      let y ← b64Val b
      let z ← b64Val c
      let w ← b64Val d
      let n := ((x * 64 + y) * 64 + z) * 64 + w
      let r ← b64DecodeQuads rest
      some (UInt8.ofNat (n / 65536) :: UInt8.ofNat (n / 256 % 256) :: UInt8.ofNat (n % 256) :: r)) := by
  rw [b64DecodeQuads] <;> simp_all

theorem quads_pad2 (a b : Char) :
    b64DecodeQuads [a, b, '=', '='] = (do
      let x ← b64Val a
      let y ← b64Val b
      some [UInt8.ofNat ((x * 64 + y) / 16)]) := by
  unfold b64DecodeQuads; rfl

theorem quads_pad1 (a b c : Char) (hc : c ≠ '=') :
    b64DecodeQuads [a, b, c, '='] = (do
      let x ← b64Val a
      let y ← b64Val b
      let z ← b64Val c
      let n := (x * 64 + y) * 64 + z
      some [UInt8.ofNat (n / 1024), UInt8.ofNat (n / 4 % 256)]) := by
  rw [b64DecodeQuads] <;> simp_all

theorem ofNat_eq (a : UInt8) (n : Nat) (h : n = a.toNat) : UInt8.ofNat n = a := by
  rw [h]; exact UInt8.ofNat_toNat

/-- the four 6-bit digits of a 24-bit number, put together again (`omega` finds these facts inside
`quads_roundtrip` by itself, four times as slowly). -/
theorem sextets (n : Nat) (h : n < 16777216) :
    n / 262144 % 64 * 64 + n / 4096 % 64 = n / 4096 ∧ n / 4096 * 64 + n / 64 % 64 = n / 64 ∧
      n / 64 * 64 + n % 64 = n := by
  omega

theorem quads_roundtrip (b : Bytes) : b64DecodeQuads (b64Encode b) = some b := by
  induction b using b64Encode.induct with
  | case1 => simp [b64Encode, b64DecodeQuads]
  | case2 a =>
    have ha := a.toNat_lt
    obtain ⟨h1, -, -⟩ := sextets (a.toNat * 65536) (by omega)
    simp only [b64Encode, quads_pad2, b64_mod, Option.bind_eq_bind, Option.bind_some, h1]
    rw [ofNat_eq a _ (by omega)]
  | case3 a b =>
    have ha := a.toNat_lt
    have hb := b.toNat_lt
    obtain ⟨h1, h2, -⟩ := sextets (a.toNat * 65536 + b.toNat * 256) (by omega)
    simp only [b64Encode, quads_pad1 _ _ _ (b64_mod _).2.1, b64_mod, Option.bind_eq_bind, Option.bind_some, h1, h2]
    rw [ofNat_eq a _ (by omega), ofNat_eq b _ (by omega)]
  | case4 a b c rest ih =>
    have ha := a.toNat_lt
    have hb := b.toNat_lt
    have hc := c.toNat_lt
    obtain ⟨h1, h2, h3⟩ := sextets (a.toNat * 65536 + b.toNat * 256 + c.toNat) (by omega)
    simp only [b64Encode, quads_cons _ _ _ _ _ (b64_mod _).2.1, b64_mod, Option.bind_eq_bind, Option.bind_some, ih,
      h1, h2, h3]
    rw [ofNat_eq a _ (by omega), ofNat_eq b _ (by omega), ofNat_eq c _ (by omega)]

theorem encode_no_crlf (b : Bytes) : ∀ c ∈ b64Encode b, (c != '\r' && c != '\n') = true := by
  induction b using b64Encode.induct <;> simp_all [b64Encode, b64_mod]

theorem u32be_length (x : UInt32) : (u32be x).length = 4 := rfl

theorem authenticateOrigin_go_ok_iff (h : Str) (pats : List Str) :
    authenticateOrigin.go h pats = .ok ↔
      ∃ pre p post, pats = pre ++ p :: post ∧
            (∀ q ∈ pre, glob (toLower q) (toLower h) = .no) ∧ glob (toLower p) (toLower h) = .yes := by
  induction pats with
  | nil => simp [authenticateOrigin.go]
  | cons p ps ih =>
    -- a first match in `p :: ps` is `p` itself, or `p` is a non-match and the first match is in `ps`
    have : (∃ pre p' post, p :: ps = pre ++ p' :: post ∧ (∀ q ∈ pre, glob (toLower q) (toLower h) = .no) ∧
          glob (toLower p') (toLower h) = .yes) ↔
        glob (toLower p) (toLower h) = .yes ∨ glob (toLower p) (toLower h) = .no ∧ authenticateOrigin.go h ps = .ok := by
      rw [ih]
      constructor
      · rintro ⟨pre, p', post, he, hpre, hy⟩
        cases pre with
        | nil => cases he; exact .inl hy
        | cons a pre =>
          cases he
          exact .inr ⟨hpre p (by simp), pre, p', post, rfl, fun q hq => hpre q (by simp [hq]), hy⟩
      · rintro (hy | ⟨hn, pre, p', post, rfl, hpre, hy⟩)
        · exact ⟨[], p, ps, rfl, by simp, hy⟩
        · exact ⟨p :: pre, p', post, rfl, by simpa [hn] using hpre, hy⟩
    rw [this, authenticateOrigin.go]
    cases glob (toLower p) (toLower h) <;> simp

theorem authenticateOrigin_go_forbidden (h : Str) (pats : List Str)
    (hp : ∀ p ∈ pats, glob (toLower p) (toLower h) = .no) :
    authenticateOrigin.go h pats = .forbidden := by
  fun_induction authenticateOrigin.go h pats <;> simp_all

theorem plain_ne {c : Char} (h : plainChar c = true) : c ≠ '*' ∧ c ≠ '?' ∧ c ≠ '[' ∧ c ≠ '\\' := by
  simpa [plainChar, and_assoc] using h

theorem scan_plain : ∀ (cs : Str) (inr : Bool) (acc : Str), (∀ c ∈ cs, plainChar c = true) →
    scanChunk.scan cs inr acc = (acc.reverse ++ cs, [])
  | [], _, _, _ => by simp [scanChunk.scan]
  | c :: cs, inr, acc, h => by
    obtain ⟨h1, h2, h3, h4⟩ := plain_ne (h c (by simp))
    have hcs : ∀ d ∈ cs, plainChar d = true := fun d hd => h d (by simp [hd])
    by_cases h5 : c = ']' <;> simp [scanChunk.scan, *, scan_plain cs _ _ hcs]

theorem scanChunk_plain (p : Str) (h : ∀ c ∈ p, plainChar c = true) : scanChunk p = (false, p, []) := by
  have hd : scanChunk.dropStars p false = (p, false) := by
    cases p with
    | nil => rfl
    | cons c cs =>
      have := (plain_ne (h c (by simp))).1
      unfold scanChunk.dropStars
      split <;> simp_all
  simp [scanChunk, hd, scan_plain p false [] h]

theorem prefix_drop_nil (p name : Str) : (p.isPrefixOf name = true ∧ (name.drop p.length).isEmpty = true) ↔ name = p := by
  simp only [List.isPrefixOf_iff_prefix]
  constructor
  · rintro ⟨⟨t, rfl⟩, h⟩; simpa using h
  · rintro rfl; simp

theorem matchChunk_plain : ∀ (chunk : Str) (fuel : Nat) (s : Str) (failed : Bool),
    (∀ c ∈ chunk, plainChar c = true) → chunk.length < fuel →
    matchChunk fuel chunk s failed =
      if failed then .fail else if chunk.isPrefixOf s then .ok (s.drop chunk.length) else .fail
  | _, 0, _, _, _, hf => by omega
  | [], fuel + 1, s, failed, _, _ => by cases failed <;> simp [matchChunk]
  | c :: cs, fuel + 1, s, failed, h, hf => by
    obtain ⟨h1, h2, h3, h4⟩ := plain_ne (h c (by simp))
    have ih := fun s failed => matchChunk_plain cs fuel s failed (fun d hd => h d (by simp [hd])) (by simpa using hf)
    cases failed <;> cases s <;> simp [matchChunk, h2, h3, h4, ih]
    rename_i d ds
    by_cases hcd : c = d <;> simp [hcd]

theorem glob_plain (p name : Str) (hp : ∀ c ∈ p, plainChar c = true) :
    glob p name = (if name = p then .yes else .no) := by
  unfold glob
  cases p with
  | nil => cases name <;> simp [globMatch]
  | cons c cs =>
    have hm := matchChunk_plain (c :: cs) ((c :: cs).length + 2) name false hp (by omega)
    simp only [globMatch, scanChunk_plain (c :: cs) hp, hm]
    have := prefix_drop_nil (c :: cs) name
    by_cases hpre : (c :: cs).isPrefixOf name = true <;>
      by_cases hd : (name.drop (c :: cs).length).isEmpty = true <;> simp_all

end WS.Proofs.Handshake
