import WS.Spec.WriteSpec
import WS.Proofs.Reader
import WS.Proofs.Close
/-
  The write side (C01 / C02): the writer is a list of `writeFrame` calls (`Shape`s) zipped with the
  key stream (`runWriter_eq`), from which every fact about keys follows; conformance and the peer
  reader's run are proved per API call.  Between the two: what compress.go's tail trimmer and
  sliding window keep (`trim_spec`, `slide_spec`).
-/
namespace WS.Proofs.Writer
open WS WS.Model WS.Spec WS.Props.FrameCodec
open WS.Proofs.FrameCodec (xorKey_invol xorKey_length parse_encodeAll)
open WS.Proofs.Reader (headerCheck_iff runReader_ping runReader_pong runReader_nil_clean readStream_of_parse
  Absorbs receiving dataStep_idle dataStep_receiving finishMsg_plain finishMsg_comp)

theorem mkFrame_data (cfg : WCfg) (fin rsv1 : Bool) (op : Nat) (p key : Bytes) :
    (mkFrame cfg fin rsv1 op p key).data = p := by
  unfold mkFrame Frame.data mkHeader
  cases cfg.client <;> simp [xorKey_invol]

theorem mkFrame_payload_length (cfg : WCfg) (fin rsv1 : Bool) (op : Nat) (p key : Bytes) :
    (mkFrame cfg fin rsv1 op p key).payload.length = p.length := by
  unfold mkFrame
  cases cfg.client <;> simp [xorKey_length]

@[simp] theorem mkFrame_fin (cfg : WCfg) (fin rsv1 : Bool) (op : Nat) (p key : Bytes) :
    (mkFrame cfg fin rsv1 op p key).h.fin = fin := rfl
@[simp] theorem mkFrame_rsv1 (cfg : WCfg) (fin rsv1 : Bool) (op : Nat) (p key : Bytes) :
    (mkFrame cfg fin rsv1 op p key).h.rsv1 = rsv1 := rfl
@[simp] theorem mkFrame_rsv2 (cfg : WCfg) (fin rsv1 : Bool) (op : Nat) (p key : Bytes) :
    (mkFrame cfg fin rsv1 op p key).h.rsv2 = false := rfl
@[simp] theorem mkFrame_rsv3 (cfg : WCfg) (fin rsv1 : Bool) (op : Nat) (p key : Bytes) :
    (mkFrame cfg fin rsv1 op p key).h.rsv3 = false := rfl
@[simp] theorem mkFrame_opcode (cfg : WCfg) (fin rsv1 : Bool) (op : Nat) (p key : Bytes) :
    (mkFrame cfg fin rsv1 op p key).h.opcode = op := rfl
@[simp] theorem mkFrame_len (cfg : WCfg) (fin rsv1 : Bool) (op : Nat) (p key : Bytes) :
    (mkFrame cfg fin rsv1 op p key).h.len = p.length := rfl
@[simp] theorem mkFrame_masked (cfg : WCfg) (fin rsv1 : Bool) (op : Nat) (p key : Bytes) :
    (mkFrame cfg fin rsv1 op p key).h.masked = cfg.client := rfl
theorem mkFrame_key (cfg : WCfg) (fin rsv1 : Bool) (op : Nat) (p key : Bytes) :
    (mkFrame cfg fin rsv1 op p key).h.key = if cfg.client then key.take 4 else [] := rfl

/-- the frames the writer can produce, with opcodes satisfying `P`. -/
def IsMk (cfg : WCfg) (P : Nat → Prop) (f : Frame) : Prop :=
  ∃ fin rsv1 op p key, f = mkFrame cfg fin rsv1 op p key ∧ P op

theorem IsMk.payload_len {cfg : WCfg} {P : Nat → Prop} {f : Frame} (h : IsMk cfg P f) :
    f.payload.length = f.h.len := by
  obtain ⟨fin, rsv1, op, p, key, rfl, -⟩ := h
  exact mkFrame_payload_length ..

theorem IsMk.opcode {cfg : WCfg} {P : Nat → Prop} {f : Frame} (h : IsMk cfg P f) : P f.h.opcode := by
  obtain ⟨fin, rsv1, op, p, key, rfl, hop⟩ := h
  exact hop

theorem IsMk.masked {cfg : WCfg} {P : Nat → Prop} {f : Frame} (h : IsMk cfg P f) : f.h.masked = cfg.client := by
  obtain ⟨fin, rsv1, op, p, key, rfl, hop⟩ := h
  rfl

theorem opFrames_msg (cfg : WCfg) (typ : Nat) (vw : Bool) (chunks obs : List Bytes) (keys : List Bytes) :
    opFrames cfg (.msg typ vw chunks obs) keys =
      if !cfg.flate && !vw then
        ([mkFrame cfg true false typ (chunks.headD []) (keys.headD [])], keys.tail)
      else if compresses cfg chunks then dataFrames cfg typ true obs true keys
      else dataFrames cfg typ false chunks true keys := rfl

theorem opFrames_ping (cfg : WCfg) (p : Bytes) (keys : List Bytes) :
    opFrames cfg (.ping p) keys = ([mkFrame cfg true false opPing p (keys.headD [])], keys.tail) := rfl
theorem opFrames_pong (cfg : WCfg) (p : Bytes) (keys : List Bytes) :
    opFrames cfg (.pong p) keys = ([mkFrame cfg true false opPong p (keys.headD [])], keys.tail) := rfl
theorem opFrames_close (cfg : WCfg) (code : Int) (reason : Bytes) (keys : List Bytes) :
    opFrames cfg (.close code reason) keys =
      match writeClosePayload code reason with
      | some p => ([mkFrame cfg true false opClose p (keys.headD [])], keys.tail)
      | none => ([], keys) := rfl

/-- the arguments of one `writeFrame` call: everything about a frame but its mask key. -/
structure Shape where
  fin : Bool
  rsv1 : Bool
  op : Nat
  p : Bytes

/-- the frames for `ss`, each made with the next key of the stream. -/
def keyed (cfg : WCfg) : List Shape → List Bytes → List Frame
  | [], _ => []
  | s :: ss, keys => mkFrame cfg s.fin s.rsv1 s.op s.p (keys.headD []) :: keyed cfg ss keys.tail

/-- `dataFrames` without the keys. -/
def dataShapes (typ : Nat) (fl : Bool) : List Bytes → Bool → List Shape
  | [], first => [⟨true, fl && first, if first then typ else opCont, []⟩]
  | p :: ps, first => ⟨false, fl && first, if first then typ else opCont, p⟩ :: dataShapes typ fl ps false

/-- `opFrames` without the keys. -/
def opShapes (cfg : WCfg) : WOp → List Shape
  | .msg typ viaWriter chunks obs =>
    if !cfg.flate && !viaWriter then [⟨true, false, typ, chunks.headD []⟩]
    else if compresses cfg chunks then dataShapes typ true obs true
    else dataShapes typ false chunks true
  | .ping p => [⟨true, false, opPing, p⟩]
  | .pong p => [⟨true, false, opPong, p⟩]
  | .close code reason =>
    match writeClosePayload code reason with
    | some p => [⟨true, false, opClose, p⟩]
    | none => []

theorem keyed_length (cfg : WCfg) (ss : List Shape) (keys : List Bytes) :
    (keyed cfg ss keys).length = ss.length := by
  induction ss generalizing keys with
  | nil => rfl
  | cons s ss ih => simp [keyed, ih]

theorem keyed_append (cfg : WCfg) (a b : List Shape) (keys : List Bytes) :
    keyed cfg (a ++ b) keys = keyed cfg a keys ++ keyed cfg b (keys.drop a.length) := by
  induction a generalizing keys with
  | nil => rfl
  | cons s a ih => simp [keyed, ih]

theorem dataFrames_eq (cfg : WCfg) (typ : Nat) (fl : Bool) (parts : List Bytes) (first : Bool)
    (keys : List Bytes) :
    dataFrames cfg typ fl parts first keys =
      (keyed cfg (dataShapes typ fl parts first) keys, keys.drop (dataShapes typ fl parts first).length) := by
  induction parts generalizing first keys with
  | nil => simp [dataFrames, dataShapes, keyed]
  | cons p ps ih => simp [dataFrames, dataShapes, keyed, ih]

theorem opFrames_eq (cfg : WCfg) (op : WOp) (keys : List Bytes) :
    opFrames cfg op keys = (keyed cfg (opShapes cfg op) keys, keys.drop (opShapes cfg op).length) := by
  cases op with
  | msg typ vw chunks obs =>
    simp only [opFrames, opShapes]
    split
    · simp [keyed]
    · split <;> exact dataFrames_eq ..
  | close code reason =>
    simp only [opFrames, opShapes]
    cases writeClosePayload code reason <;> simp [keyed]
  | _ => simp [opFrames, opShapes, keyed]

theorem opFrames_keys (cfg : WCfg) (op : WOp) (keys : List Bytes) :
    (opFrames cfg op keys).2 = keys.drop (opFrames cfg op keys).1.length := by
  rw [opFrames_eq, keyed_length]

theorem runWriter_eq (cfg : WCfg) (ops : List WOp) (keys : List Bytes) :
    runWriter cfg ops keys = keyed cfg (ops.flatMap (opShapes cfg)) keys := by
  induction ops generalizing keys with
  | nil => rfl
  | cons op ops ih => simp [runWriter, opFrames_eq, ih, keyed_append]

theorem keyed_isMk {cfg : WCfg} {P : Nat → Prop} {ss : List Shape} (hP : ∀ s ∈ ss, P s.op) (keys : List Bytes) :
    ∀ f ∈ keyed cfg ss keys, IsMk cfg P f := by
  induction ss generalizing keys with
  | nil => simp [keyed]
  | cons s ss ih =>
    intro f hf
    rcases List.mem_cons.1 hf with hf | hf
    · exact ⟨_, _, _, _, _, hf, hP s (by simp)⟩
    · exact ih (fun s' hs' => hP s' (by simp [hs'])) _ f hf

theorem KeysOK.cons {keys : List Bytes} {n : Nat} (h : KeysOK keys (n + 1)) :
    ∃ k ks, keys = k :: ks ∧ k.length = 4 ∧ KeysOK ks n := by
  obtain ⟨h1, h2⟩ := h
  cases keys with
  | nil => simp at h1
  | cons k ks => exact ⟨k, ks, rfl, h2 k (by simp), by simpa using h1, fun k' hk' => h2 k' (by simp [hk'])⟩

theorem keyed_keys (cfg : WCfg) (hc : cfg.client = true) (ss : List Shape) (keys : List Bytes)
    (hk : KeysOK keys ss.length) : (keyed cfg ss keys).map (fun f => f.h.key) = keys.take ss.length := by
  induction ss generalizing keys with
  | nil => rfl
  | cons s ss ih =>
    obtain ⟨k, ks, rfl, hk4, hks⟩ := KeysOK.cons hk
    simp [keyed, mkFrame_key, hc, List.take_of_length_le, hk4, ih ks hks]

theorem key_per_frame (cfg : WCfg) (hc : cfg.client = true) (ops : List WOp) (keys : List Bytes)
    (hk : KeysOK keys (runWriter cfg ops keys).length) :
    (runWriter cfg ops keys).map (fun f => f.h.key) = keys.take (runWriter cfg ops keys).length := by
  rw [runWriter_eq, keyed_length] at hk ⊢
  exact keyed_keys cfg hc _ keys hk

theorem server_unmasked (cfg : WCfg) (hc : cfg.client = false) (ops : List WOp) (keys : List Bytes) :
    ∀ f ∈ runWriter cfg ops keys, f.h.masked = false ∧ f.h.key = [] ∧ f.data = f.payload := by
  intro f hf
  obtain ⟨fin, rsv1, op, p, key, rfl, -⟩ :=
    keyed_isMk (P := fun _ => True) (fun _ _ => trivial) keys f (runWriter_eq .. ▸ hf)
  simp [mkFrame_key, Frame.data, hc]

theorem dataShapes_lt {typ : Nat} (htyp : typ < 16) {fl : Bool} {parts : List Bytes} {first : Bool} :
    ∀ s ∈ dataShapes typ fl parts first, s.op < 16 := by
  induction parts generalizing first with
  | nil => cases first <;> simp [dataShapes, htyp, opCont]
  | cons p ps ih => cases first <;> simpa [dataShapes, htyp, opCont] using ih

theorem opShapes_lt {cfg : WCfg} {op : WOp} (h : opWF op) : ∀ s ∈ opShapes cfg op, s.op < 16 := by
  cases op with
  | msg typ vw chunks obs =>
    have htyp : typ < 16 := by rcases h.1 with h | h <;> simp [h, opText, opBinary]
    simp only [opShapes]
    split
    · simpa using htyp
    · split <;> exact dataShapes_lt htyp
  | close code reason =>
    simp only [opShapes]
    split <;> simp [opClose]
  | _ => simp [opShapes, opPing, opPong]

theorem runWriter_WF (cfg : WCfg) (ops : List WOp) (keys : List Bytes)
    (hwf : ∀ op ∈ ops, opWF op)
    (hk : KeysOK keys (runWriter cfg ops keys).length)
    (hlen : ∀ f ∈ runWriter cfg ops keys, f.h.len < 2 ^ 63) :
    ∀ f ∈ runWriter cfg ops keys, Frame.WF f := by
  intro f hf
  have hmk : IsMk cfg (· < 16) f := by
    refine keyed_isMk (fun s hs => ?_) keys f (runWriter_eq .. ▸ hf)
    obtain ⟨op, hop, hs⟩ := List.mem_flatMap.1 hs
    exact opShapes_lt (hwf op hop) s hs
  refine ⟨⟨hmk.opcode, hlen f hf, fun hm => ?_, fun hm => ?_⟩, hmk.payload_len⟩
  · -- a masked frame's key is one of `keys`
    have h1 : f.h.key ∈ (runWriter cfg ops keys).map (fun f => f.h.key) := List.mem_map_of_mem hf
    rw [key_per_frame cfg (hmk.masked ▸ hm) ops keys hk] at h1
    exact hk.2 _ (List.mem_of_mem_take h1)
  · exact (server_unmasked cfg (hmk.masked ▸ hm) ops keys f hf).2.1

theorem emit_parses (cfg : WCfg) (ops : List WOp) (keys : List Bytes)
    (hwf : ∀ op ∈ ops, opWF op)
    (hk : KeysOK keys (runWriter cfg ops keys).length)
    (hlen : ∀ f ∈ runWriter cfg ops keys, f.h.len < 2 ^ 63) :
    parseFrames (writerBytes cfg ops keys) = (runWriter cfg ops keys, .clean) :=
  parse_encodeAll _ (runWriter_WF cfg ops keys hwf hk hlen)

theorem closePayloadOK_write (code : Int) (reason p : Bytes) (h : writeClosePayload code reason = some p) :
    closePayloadOK p = true ∧ p.length ≤ 125 := by
  unfold writeClosePayload at h
  split at h
  · cases h; exact ⟨rfl, by simp⟩
  · obtain ⟨hr, hv, rfl⟩ := Close.closeBytesErr_eq_some.1 h
    rw [maxCloseReason] at hr
    -- `closePayloadOK` reads the code back from the two bytes `closePayload` put there
    obtain ⟨b0, b1, e, hc⟩ := Close.closePayload_valid code reason hv
    exact ⟨by simp [e, closePayloadOK, hc, hv, hr], by rw [Close.closePayload_length]; omega⟩

theorem close_frame_ok (cfg : WCfg) (code : Int) (reason : Bytes) (keys : List Bytes) :
    (∀ f ∈ (opFrames cfg (.close code reason) keys).1, closePayloadOK f.data = true ∧ f.h.opcode = opClose) ∧
    (writeClosePayload code reason = none → (opFrames cfg (.close code reason) keys).1 = []) := by
  rw [opFrames_close]
  cases hw : writeClosePayload code reason with
  | none => simp
  | some p => simp [mkFrame_data, (closePayloadOK_write code reason p hw).1]

theorem compress_iff (cfg : WCfg) (c : Bytes) (cs : List Bytes) :
    compresses cfg (c :: cs) = true ↔
      cfg.flate = true ∧ c.length ≥ (if cfg.threshold = 0 then (if cfg.takeover then 128 else 512) else cfg.threshold) := by
  unfold compresses effThreshold
  cases cfg.flate <;> simp

/-- the conjunction `conformant` asks of every frame (its `let common`). -/
theorem common_true (f : Frame) (client : Bool) (hwf : Frame.WF f) (hm : f.h.masked = client)
    (h2 : f.h.rsv2 = false) (h3 : f.h.rsv3 = false) :
    ((f.h.masked == client) && (!f.h.masked || f.h.key.length == 4) && (f.h.masked || f.h.key.isEmpty) &&
      !f.h.rsv2 && !f.h.rsv3 && (f.payload.length == f.h.len) && decide (f.h.len < 2 ^ 63)) = true := by
  obtain ⟨⟨-, hl, hk1, hk2⟩, hpl⟩ := hwf
  cases hmm : f.h.masked
  · simp [← hm, hmm, hk2 hmm, h2, h3, hpl, hl]
  · simp [← hm, hmm, hk1 hmm, h2, h3, hpl, hl]

theorem conf_ctl (cfg : WCfg) (fl inMsg : Bool) (op : Nat) (p key : Bytes) (rest : List Frame)
    (hwf : Frame.WF (mkFrame cfg true false op p key))
    (hop : op = opClose ∨ op = opPing ∨ op = opPong) (hlen : p.length ≤ 125)
    (hcl : op = opClose → closePayloadOK p = true) :
    conformant cfg.client fl inMsg (mkFrame cfg true false op p key :: rest) =
      conformant cfg.client fl inMsg rest := by
  have e : (op == opClose || op == opPing || op == opPong) = true := by
    rcases hop with h | h | h <;> simp [h, opClose, opPing, opPong]
  have e2 : (op != opClose || closePayloadOK p) = true := by
    by_cases h : op = opClose <;> simp [h, hcl]
  simp only [conformant, common_true _ cfg.client hwf rfl rfl rfl]
  simp [mkFrame_data, e, e2, hlen]

theorem conf_data (cfg : WCfg) (typ : Nat) (htyp : typ = opText ∨ typ = opBinary) (fl : Bool)
    (hfl : fl = true → cfg.flate = true) (first fin : Bool) (p key : Bytes) (rest : List Frame)
    (hwf : Frame.WF (mkFrame cfg fin (fl && first) (if first then typ else opCont) p key)) :
    conformant cfg.client cfg.flate (!first)
        (mkFrame cfg fin (fl && first) (if first then typ else opCont) p key :: rest) =
      conformant cfg.client cfg.flate (!fin) rest := by
  simp only [conformant, common_true _ cfg.client hwf rfl rfl rfl]
  cases first
  · simp [opClose, opPing, opPong, opText, opBinary, opCont]
  · have e : (typ == opClose || typ == opPing || typ == opPong) = false ∧ (typ == opText || typ == opBinary) = true := by
      rcases htyp with h | h <;> simp [h, opClose, opPing, opPong, opText, opBinary]
    cases fl <;> simp_all

theorem conf_dataFrames (cfg : WCfg) (typ : Nat) (htyp : typ = opText ∨ typ = opBinary) (fl : Bool)
    (hfl : fl = true → cfg.flate = true)
    (parts : List Bytes) (first : Bool) (keys : List Bytes) (rest : List Frame)
    (hwf : ∀ f ∈ (dataFrames cfg typ fl parts first keys).1, Frame.WF f) :
    conformant cfg.client cfg.flate (!first) ((dataFrames cfg typ fl parts first keys).1 ++ rest) =
      conformant cfg.client cfg.flate false rest := by
  induction parts generalizing first keys with
  | nil => exact conf_data cfg typ htyp fl hfl first true _ _ rest (hwf _ List.mem_cons_self)
  | cons p ps ih =>
    simp only [dataFrames, List.cons_append]
    rw [conf_data cfg typ htyp fl hfl first false _ _ _ (hwf _ List.mem_cons_self)]
    exact ih false keys.tail fun f hf => hwf f (List.mem_cons_of_mem _ hf)

theorem compresses_flate {cfg : WCfg} {chunks : List Bytes} (h : compresses cfg chunks = true) :
    cfg.flate = true := by
  simp [compresses] at h
  exact h.1

theorem conf_opFrames (cfg : WCfg) (op : WOp) (hwfo : opWF op) (hc : ctlOK op) (keys : List Bytes)
    (rest : List Frame) (hwf : ∀ f ∈ (opFrames cfg op keys).1, Frame.WF f) :
    conformant cfg.client cfg.flate false ((opFrames cfg op keys).1 ++ rest) =
      conformant cfg.client cfg.flate false rest := by
  cases op with
  | msg typ vw chunks obs =>
    revert hwf
    rw [opFrames_msg]
    split
    · exact fun hwf => conf_data cfg typ hwfo.1 false (by simp) true true _ _ rest (hwf _ List.mem_cons_self)
    · split
      · rename_i h
        exact conf_dataFrames cfg typ hwfo.1 true (fun _ => compresses_flate h) obs true keys rest
      · exact conf_dataFrames cfg typ hwfo.1 false (by simp) chunks true keys rest
  | ping p => exact conf_ctl cfg _ _ _ p _ rest (hwf _ List.mem_cons_self) (by simp) hc (by simp [opPing, opClose])
  | pong p => exact conf_ctl cfg _ _ _ p _ rest (hwf _ List.mem_cons_self) (by simp) hc (by simp [opPong, opClose])
  | close code reason =>
    revert hwf
    rw [opFrames_close]
    cases hw : writeClosePayload code reason with
    | none => simp
    | some p =>
      have hcp := closePayloadOK_write code reason p hw
      exact fun hwf => conf_ctl cfg _ _ _ p _ rest (hwf _ List.mem_cons_self) (by simp) hcp.2 fun _ => hcp.1

theorem conf_runWriter (cfg : WCfg) (ops : List WOp) (keys : List Bytes) (rest : List Frame)
    (hwf : ∀ op ∈ ops, opWF op) (hc : ∀ op ∈ ops, ctlOK op)
    (hF : ∀ f ∈ runWriter cfg ops keys, Frame.WF f) :
    conformant cfg.client cfg.flate false (runWriter cfg ops keys ++ rest) =
      conformant cfg.client cfg.flate false rest := by
  induction ops generalizing keys with
  | nil => rfl
  | cons op ops ih =>
    rw [List.forall_mem_cons] at hwf hc
    rw [runWriter] at hF ⊢
    rw [List.append_assoc, conf_opFrames cfg op hwf.1 hc.1 keys _ fun f hf => hF f (List.mem_append_left _ hf)]
    exact ih _ hwf.2 hc.2 fun f hf => hF f (List.mem_append_right _ hf)

theorem emit_conformant (cfg : WCfg) (ops : List WOp) (keys : List Bytes)
    (hwf : ∀ op ∈ ops, opWF op)
    (hk : KeysOK keys (runWriter cfg ops keys).length) (hc : ∀ op ∈ ops, ctlOK op)
    (hlen : ∀ f ∈ runWriter cfg ops keys, f.h.len < 2 ^ 63) :
    conformant cfg.client cfg.flate false (runWriter cfg ops keys) = true := by
  simpa [conformant] using
    conf_runWriter cfg ops keys [] hwf hc (runWriter_WF cfg ops keys hwf hk hlen)

theorem trim_spec (chunks : List Bytes) :
    (trimLastFour chunks).1 ++ (trimLastFour chunks).2 = chunks.flatten ∧
    (trimLastFour chunks).2.length = min 4 chunks.flatten.length := by
  unfold trimLastFour
  simp only [List.take_append_drop, List.length_drop]
  exact ⟨trivial, by omega⟩

theorem drop_tail_append {α : Type} (l p : List α) (n : Nat) :
    (l.drop (l.length - n) ++ p).drop ((l.drop (l.length - n) ++ p).length - n) =
      (l ++ p).drop ((l ++ p).length - n) := by
  have h1 : l.drop (l.length - n) ++ p = (l ++ p).drop (l.length - n) := by
    rw [List.drop_append_of_le_length (by omega)]
  rw [h1, List.drop_drop]
  congr 1
  simp only [List.length_drop, List.length_append]
  omega

theorem foldl_tail {α : Type} (n : Nat) (g : List α → List α → List α)
    (hg : ∀ d p, g d p = (d ++ p).drop ((d ++ p).length - n)) (ws : List (List α)) (l : List α) :
    ws.foldl g (l.drop (l.length - n)) =
      (l ++ ws.flatten).drop ((l ++ ws.flatten).length - n) := by
  induction ws generalizing l with
  | nil => simp
  | cons w ws ih =>
    rw [List.foldl_cons, hg, drop_tail_append, ih]
    simp [List.append_assoc]

theorem slide_spec (ws : List Bytes) :
    ws.foldl slide [] = ws.flatten.drop (ws.flatten.length - windowSize) := by
  have h := foldl_tail windowSize slide (fun _ _ => rfl) ws []
  rw [List.nil_append, List.drop_nil] at h
  exact h

/-- the peer's reader configuration. -/
def peerCfg (wcfg : WCfg) (rt : Bool) : RCfg :=
  { client := !wcfg.client, flate := wcfg.flate, takeover := rt, limit := -1 }

theorem headerCheck_mkFrame (wcfg : WCfg) (rt : Bool) (fin rsv1 : Bool) (op : Nat) (p key : Bytes)
    (h1 : rsv1 = true → wcfg.flate = true ∧ (op = opText ∨ op = opBinary))
    (hop : op = 0 ∨ op = 1 ∨ op = 2 ∨ op = 8 ∨ op = 9 ∨ op = 10)
    (hctl : 8 ≤ op → p.length ≤ 125 ∧ fin = true) :
    headerCheck (peerCfg wcfg rt) (mkFrame wcfg fin rsv1 op p key).h = none := by
  rw [headerCheck_iff]
  exact ⟨rfl, rfl, h1, by simp [peerCfg], hop, hctl⟩

section run
variable (inf : Inflate) (wcfg : WCfg) (rt : Bool)

theorem absorbs_first (fl : Bool) (hfl : fl = true → wcfg.flate = true) (typ : Nat)
    (htyp : typ = opText ∨ typ = opBinary) (dict : Bytes) (idx : Nat) (fin : Bool) (p key : Bytes) :
    Absorbs inf (peerCfg wcfg rt) ⟨.idle, dict, idx⟩ (mkFrame wcfg fin fl typ p key) ⟨receiving fl typ p, dict, idx + 1⟩ := by
  have h : typ ≠ opCont ∧ typ ≤ 2 ∧ (typ = 0 ∨ typ = 1 ∨ typ = 2 ∨ typ = 8 ∨ typ = 9 ∨ typ = 10) := by
    rcases htyp with h | h <;> simp [h, opCont, opText, opBinary]
  refine ⟨headerCheck_mkFrame wcfg rt _ _ _ _ _ (fun h => ⟨hfl h, htyp⟩) h.2.2 (by omega), h.2.1, ?_⟩
  rw [mkFrame_data]
  exact dataStep_idle inf dict idx p (by simp [peerCfg]) h.1

theorem absorbs_cont (c : Bool) (typ : Nat) (acc dict : Bytes) (idx : Nat) (fin : Bool) (p key : Bytes) :
    Absorbs inf (peerCfg wcfg rt) ⟨receiving c typ acc, dict, idx⟩ (mkFrame wcfg fin false opCont p key)
      ⟨receiving c typ (acc ++ p), dict, idx⟩ := by
  refine ⟨headerCheck_mkFrame wcfg rt _ _ _ _ _ (by simp) (by simp [opCont]) (by simp [opCont]), by simp [opCont], ?_⟩
  rw [mkFrame_data]
  exact dataStep_receiving inf dict idx p c typ acc rfl

theorem read_cont (c : Bool) (typ typ' : Nat) (fl : Bool) (dict : Bytes) (idx : Nat) (rest : List Frame)
    (tl : Tail) (parts : List Bytes) (acc : Bytes) (keys : List Bytes) (evs : List Ev) (st' : RState)
    (hfm : finishMsg inf (peerCfg wcfg rt) [] ⟨receiving c typ (acc ++ parts.flatten), dict, idx⟩ = (evs, some st')) :
    runReader inf (peerCfg wcfg rt) [] ⟨receiving c typ acc, dict, idx⟩
        ((dataFrames wcfg typ' fl parts false keys).1 ++ rest) tl =
      evs ++ runReader inf (peerCfg wcfg rt) [] st' rest tl := by
  induction parts generalizing acc keys with
  | nil =>
    simp only [dataFrames, Bool.and_false, Bool.false_eq_true, if_false]
    exact (absorbs_cont ..).step_fin rfl (by simpa using hfm) rest tl
  | cons p ps ih =>
    simp only [dataFrames, Bool.and_false, Bool.false_eq_true, if_false, List.cons_append]
    rw [(absorbs_cont ..).step_nf rfl]
    exact ih _ _ (by simpa using hfm)

theorem read_msg (fl : Bool) (hfl : fl = true → wcfg.flate = true) (typ : Nat)
    (htyp : typ = opText ∨ typ = opBinary) (dict : Bytes) (idx : Nat) (rest : List Frame) (tl : Tail)
    (parts : List Bytes) (keys : List Bytes) (evs : List Ev) (st' : RState)
    (hfm : finishMsg inf (peerCfg wcfg rt) [] ⟨receiving fl typ parts.flatten, dict, idx + 1⟩ = (evs, some st')) :
    runReader inf (peerCfg wcfg rt) [] ⟨.idle, dict, idx⟩ ((dataFrames wcfg typ fl parts true keys).1 ++ rest) tl =
      evs ++ runReader inf (peerCfg wcfg rt) [] st' rest tl := by
  cases parts with
  | nil =>
    simp only [dataFrames, Bool.and_true, if_true]
    exact (absorbs_first inf wcfg rt fl hfl typ htyp ..).step_fin rfl hfm rest tl
  | cons p ps =>
    simp only [dataFrames, Bool.and_true, if_true, List.cons_append]
    rw [(absorbs_first inf wcfg rt fl hfl typ htyp ..).step_nf rfl]
    exact read_cont inf wcfg rt fl typ typ fl dict (idx + 1) rest tl ps p _ evs st' (by simpa using hfm)

theorem read_op (op : WOp) (ops : List WOp) (keys : List Bytes) (dict : Bytes) (idx : Nat)
    (rest : List Frame) (tl : Tail) (hwf : opWF op) (hnc : isClose op = false) (hctl : ctlOK op)
    (hcodec : CodecOK inf wcfg rt dict (op :: ops)) :
    ∃ dict' idx', CodecOK inf wcfg rt dict' ops ∧
      runReader inf (peerCfg wcfg rt) [] ⟨.idle, dict, idx⟩ ((opFrames wcfg op keys).1 ++ rest) tl =
        opEvents op ++ runReader inf (peerCfg wcfg rt) [] ⟨.idle, dict', idx'⟩ rest tl := by
  cases op with
  | msg typ vw chunks obs =>
    obtain ⟨htyp, hvw⟩ := hwf
    simp only [CodecOK] at hcodec
    rw [opFrames_msg]
    split
    · rename_i h
      simp only [Bool.and_eq_true, Bool.not_eq_true'] at h
      obtain ⟨p, rfl⟩ := hvw h.2
      rw [if_neg (by simp [compresses, h.1])] at hcodec
      exact ⟨dict, idx + 1, hcodec, by
        simpa [opEvents] using
          (absorbs_first inf wcfg rt false (by simp) typ htyp ..).step_fin rfl (finishMsg_plain ..) rest tl⟩
    · split
      · rename_i hc
        rw [if_pos hc] at hcodec
        exact ⟨_, idx + 1, hcodec.2, read_msg inf wcfg rt true (fun _ => compresses_flate hc) typ htyp dict idx
          rest tl obs keys _ _ (finishMsg_comp inf _ _ (by simp [peerCfg]) _ _ _ hcodec.1)⟩
      · rename_i hc
        rw [if_neg hc] at hcodec
        exact ⟨dict, idx + 1, hcodec, read_msg inf wcfg rt false (by simp) typ htyp dict idx rest tl chunks keys
          _ _ (finishMsg_plain ..)⟩
  | ping p =>
    refine ⟨dict, idx, hcodec, ?_⟩
    rw [opFrames_ping, List.singleton_append, runReader_ping
      (headerCheck_mkFrame wcfg rt true false opPing p _ (by simp) (by simp [opPing]) fun _ => ⟨hctl, rfl⟩) rfl, mkFrame_data]
    rfl
  | pong p =>
    refine ⟨dict, idx, hcodec, ?_⟩
    rw [opFrames_pong, List.singleton_append, runReader_pong
      (headerCheck_mkFrame wcfg rt true false opPong p _ (by simp) (by simp [opPong]) fun _ => ⟨hctl, rfl⟩) rfl]
    rfl
  | close code reason => simp [isClose] at hnc

theorem read_ops (ops : List WOp) (keys : List Bytes) (dict : Bytes) (idx : Nat) (rest : List Frame) (tl : Tail)
    (hwf : ∀ op ∈ ops, opWF op) (hnc : ∀ op ∈ ops, isClose op = false) (hctl : ∀ op ∈ ops, ctlOK op)
    (hcodec : CodecOK inf wcfg rt dict ops) :
    ∃ dict' idx', runReader inf (peerCfg wcfg rt) [] ⟨.idle, dict, idx⟩ (runWriter wcfg ops keys ++ rest) tl =
      (ops.map opEvents).flatten ++ runReader inf (peerCfg wcfg rt) [] ⟨.idle, dict', idx'⟩ rest tl := by
  induction ops generalizing keys dict idx with
  | nil => exact ⟨dict, idx, rfl⟩
  | cons op ops ih =>
    rw [List.forall_mem_cons] at hwf hnc hctl
    obtain ⟨d1, i1, hcodec, e1⟩ := read_op inf wcfg rt op ops keys dict idx
      (runWriter wcfg ops (opFrames wcfg op keys).2 ++ rest) tl hwf.1 hnc.1 hctl.1 hcodec
    obtain ⟨d2, i2, e2⟩ := ih (opFrames wcfg op keys).2 d1 i1 hwf.2 hnc.2 hctl.2 hcodec
    exact ⟨d2, i2, by simp [runWriter, e1, e2]⟩

theorem roundtrip (ops : List WOp) (keys : List Bytes)
    (hwf : ∀ op ∈ ops, opWF op) (hnc : ∀ op ∈ ops, isClose op = false) (hctl : ∀ op ∈ ops, ctlOK op)
    (hk : KeysOK keys (runWriter wcfg ops keys).length)
    (hlen : ∀ f ∈ runWriter wcfg ops keys, f.h.len < 2 ^ 63)
    (hcodec : CodecOK inf wcfg rt [] ops) :
    readStream inf { client := !wcfg.client, flate := wcfg.flate, takeover := rt, limit := -1 } []
        (writerBytes wcfg ops keys) =
      (ops.map opEvents).flatten ++ [.fail .io] := by
  obtain ⟨d', i', e⟩ := read_ops inf wcfg rt ops keys [] 0 [] .clean hwf hnc hctl hcodec
  rw [List.append_nil] at e
  rw [readStream_of_parse (emit_parses wcfg ops keys hwf hk hlen)]
  exact e.trans (by simp [runReader_nil_clean, stopIn, stopReplies])

end run

end WS.Proofs.Writer
