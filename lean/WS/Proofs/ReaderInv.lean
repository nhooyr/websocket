import WS.Proofs.Reader
/-
  What holds of every run of the reader, valid stream or not: the outside shape of a run
  (`runReader_induct`), event properties under a state invariant (`runReader_forall`), the read limit.
  At the end: the reference semantics over `++`.
-/
namespace WS.Proofs.ReaderInv
open WS WS.Model WS.Spec WS.Proofs.Reader

variable (inf : Inflate) (cfg : RCfg) (limits : List Int)

theorem stopped_partial (why : Stop) (typ : Nat) (out : Bytes) (amb : Bool) :
    Stopped (stopReplies why ++ [.partialMsg typ out why amb]) :=
  stopped_of_last why trivial rfl

/-- In the third case a plain message hands the bytes to the limit reader, on the account `(acc, n)` of what has
been handed out and what is left of the allowance: `([], allowance ..)` for its first frame. -/
theorem dataStep_view (st : RState) (h : Header) (d : Bytes) :
    dataStep inf cfg limits st h d = (stopIn inf cfg limits st .proto, none) ∨
    (∃ typ z, ∃ st1 : RState, dataStep inf cfg limits st h d = ([], some { st1 with mode := .comp typ z })) ∨
    ∃ typ acc n, ∃ st1 : RState,
      (st.mode = .plain typ acc n ∨ acc = [] ∧ n = allowance (limitFor cfg limits st.idx)) ∧
      dataStep inf cfg limits st h d =
        match takeLimited n d with
        | (out, n', hit) =>
          if hit then (stopReplies .limit ++ [.partialMsg typ (acc ++ out) .limit false], none)
          else ([], some { st1 with mode := .plain typ (acc ++ out) n' }) := by
  -- each branch of the definition is one of these (`unfold` and `split` by hand are slow here)
  fun_cases dataStep inf cfg limits st h d
  all_goals first
    | exact .inl rfl
    | exact .inr (.inl ⟨_, _, _, rfl⟩)
    | exact .inr (.inr ⟨_, _, _, st, .inl ‹_›, by simp [*]⟩)
    | exact .inr (.inr ⟨h.opcode, [], _, { st with idx := st.idx + 1 }, .inr ⟨rfl, rfl⟩,
        by simp +zetaDelta [*]⟩)

theorem dataStep_cases (st : RState) (h : Header) (d : Bytes) :
    (∃ evs, dataStep inf cfg limits st h d = (evs, none) ∧ Stopped evs) ∨
    ∃ st', dataStep inf cfg limits st h d = ([], some st') := by
  rcases dataStep_view inf cfg limits st h d with e | ⟨_, _, _, e⟩ | ⟨_, _, n, _, -, e⟩
  · exact .inl ⟨_, e, stopIn_stopped ..⟩
  · exact .inr ⟨_, e⟩
  · rcases t : takeLimited n d with ⟨out, n', _ | _⟩ <;> rw [t] at e
    · exact .inr ⟨_, e⟩
    · exact .inl ⟨_, e, stopped_partial ..⟩

theorem finishMsg_cases (st : RState) :
    (∃ evs, finishMsg inf cfg limits st = (evs, none) ∧ Stopped evs) ∨
    (∃ st', finishMsg inf cfg limits st = ([], some st')) ∨
    ∃ typ out st', finishMsg inf cfg limits st = ([.msg typ out], some st') := by
  fun_cases finishMsg inf cfg limits st
  all_goals first
    | exact .inl ⟨_, rfl, stopped_partial ..⟩
    | exact .inl ⟨_, rfl, stopped_partial .inflate ..⟩
    | exact .inr (.inl ⟨_, rfl⟩)
    | exact .inr (.inr ⟨_, _, _, rfl⟩)

theorem runReader_nil_stopped (st : RState) (tl : Tail) :
    Stopped (runReader inf cfg limits st [] tl) := by
  rcases runReader_nil_cases st tl with ⟨why, -, e⟩ | ⟨h, d, e⟩ <;> rw [e]
  · exact stopIn_stopped ..
  · rcases dataStep_cases inf cfg limits st h d with ⟨evs, e, hs⟩ | ⟨st', e⟩ <;> rw [e]
    · exact hs
    · exact stopIn_stopped ..

/-- The outside shape of every run, whatever the states it goes through: a Ping is answered by a Pong
with its payload, a data frame with FIN may complete a message, nothing else produces an event, and
the run ends when reading stops. -/
theorem runReader_induct (motive : List Frame → List Ev → Prop)
    (stop : ∀ fs evs, Stopped evs → motive fs evs)
    (ping : ∀ f fs r, f.h.opcode = opPing → motive fs r → motive (f :: fs) (.reply opPong f.data :: r))
    (skip : ∀ f fs r, f.h.opcode ≠ opPing → motive fs r → motive (f :: fs) r)
    (msg : ∀ f fs typ d r, f.h.fin = true → isData f.h.opcode = true → motive fs r →
      motive (f :: fs) (.msg typ d :: r))
    (st : RState) (fs : List Frame) (tl : Tail) : motive fs (runReader inf cfg limits st fs tl) := by
  induction fs generalizing st with
  | nil => exact stop _ _ (runReader_nil_stopped ..)
  | cons f fs ih =>
    cases hc : headerCheck cfg f.h with
    | some why => rw [runReader_bad hc]; exact stop _ _ (stopIn_stopped ..)
    | none =>
      rcases headerCheck_none_kind cfg f.h hc with ho | ho | ho | hd
      · rw [runReader_ping hc ho]; exact ping _ _ _ ho (ih _)
      · rw [runReader_pong hc ho]; exact skip _ _ _ (by rw [ho]; decide) (ih _)
      · rw [runReader_close hc ho]; exact stop _ _ (stopIn_stopped ..)
      · have hnp : f.h.opcode ≠ opPing := by
          have := (isData_iff _).1 hd; simp [opPing]; omega
        rw [runReader_data hc hd]
        rcases dataStep_cases inf cfg limits st f.h f.data with ⟨evs, e, hs⟩ | ⟨st', e⟩ <;> rw [e]
        · exact stop _ _ hs
        · cases hfin : f.h.fin
          · exact skip _ _ _ hnp (ih _)
          · rcases finishMsg_cases inf cfg limits st' with ⟨evs, e, hs⟩ | ⟨st'', e⟩ | ⟨typ, out, st'', e⟩
            all_goals simp only [e, if_true]
            · exact stop _ _ hs
            · exact skip _ _ _ hnp (ih _)
            · exact msg _ _ _ _ _ hfin hd (ih _)

theorem runReader_forall (P : Ev → Prop) (I : RState → Prop)
    (hpong : ∀ d, P (.reply opPong d))
    (hstop : ∀ st why, I st → why ≠ .limit → ∀ ev ∈ stopIn inf cfg limits st why, P ev)
    (hdata : ∀ st h d evs o, I st → dataStep inf cfg limits st h d = (evs, o) →
      (∀ ev ∈ evs, P ev) ∧ ∀ st', o = some st' → I st')
    (hfin : ∀ st evs o, I st → finishMsg inf cfg limits st = (evs, o) →
      (∀ ev ∈ evs, P ev) ∧ ∀ st', o = some st' → I st')
    (fs : List Frame) (st : RState) (tl : Tail) (hI : I st) :
    ∀ ev ∈ runReader inf cfg limits st fs tl, P ev := by
  have hbad : ∀ {h why}, headerCheck cfg h = some why → why ≠ .limit := fun hc => by
    rcases headerCheck_some cfg _ _ hc with rfl | rfl <;> simp
  induction fs generalizing st with
  | nil =>
    rcases runReader_nil_cases st tl with ⟨why, hw, e⟩ | ⟨h, d, e⟩ <;> rw [e]
    · exact hstop _ _ hI hw
    · rcases e : dataStep inf cfg limits st h d with ⟨evs, _ | st'⟩
      all_goals obtain ⟨h1, h2⟩ := hdata _ _ _ _ _ hI e
      · exact h1
      · exact List.forall_mem_append.2 ⟨h1, hstop _ _ (h2 _ rfl) (by simp)⟩
  | cons f fs ih =>
    cases hc : headerCheck cfg f.h with
    | some why => rw [runReader_bad hc]; exact hstop _ _ hI (hbad hc)
    | none =>
      rcases headerCheck_none_kind cfg f.h hc with ho | ho | ho | hd
      · rw [runReader_ping hc ho]; exact List.forall_mem_cons.2 ⟨hpong _, ih _ hI⟩
      · rw [runReader_pong hc ho]; exact ih _ hI
      · rw [runReader_close hc ho]; exact hstop _ _ hI (by split <;> simp)
      · rw [runReader_data hc hd]
        rcases e : dataStep inf cfg limits st f.h f.data with ⟨evs, _ | st'⟩
        all_goals obtain ⟨h1, h2⟩ := hdata _ _ _ _ _ hI e
        · exact h1
        · cases f.h.fin
          · exact List.forall_mem_append.2 ⟨h1, ih _ (h2 _ rfl)⟩
          · dsimp only
            rcases e2 : finishMsg inf cfg limits st' with ⟨evs2, _ | st''⟩
            all_goals obtain ⟨g1, g2⟩ := hfin _ _ _ (h2 _ rfl) e2
            · exact List.forall_mem_append.2 ⟨h1, g1⟩
            · exact List.forall_mem_append.2 ⟨List.forall_mem_append.2 ⟨h1, g1⟩, ih _ (g2 _ rfl)⟩

/-! ### the read limit (one limit for all messages: `limits = []`) -/

/-- `n` is what is left of the allowance `a` once `acc` has been handed out (`a < 0`: unlimited). -/
def Remains (a : Int) (acc : Bytes) (n : Int) : Prop :=
  (a < 0 ∧ n < 0) ∨ (0 < n ∧ acc.length + n = a)

/-- in plain mode the state's allowance is what remains of `a` after the bytes handed out. -/
def LimInv (a : Int) (st : RState) : Prop :=
  ∀ typ acc n, st.mode = .plain typ acc n → Remains a acc n

/-- what the allowance `a` lets an observer see: a complete message is shorter than `a`, a failing
read has handed out at most `a`; unlimited, nothing stops for the limit. -/
def LimEv (a : Int) : Ev → Prop
  | .msg _ d => a < 0 ∨ d.length < a
  | .partialMsg _ d why _ => (why = .limit → 0 ≤ a) ∧ (0 ≤ a → d.length ≤ a)
  | .fail why => why ≠ .limit
  | .reply _ _ => True

theorem Remains.lt {a n : Int} {acc : Bytes} (hl : Remains a acc n) : a < 0 ∨ (acc.length : Int) < a := by
  unfold Remains at hl; omega

theorem takeLimited_remains {a n n' : Int} {acc d out : Bytes} {hit : Bool} (hl : Remains a acc n)
    (t : takeLimited n d = (out, n', hit)) :
    (0 ≤ a → ((acc ++ out).length : Int) ≤ a) ∧ (hit = true → 0 ≤ a) ∧
      (hit = false → Remains a (acc ++ out) n') := by
  unfold Remains at *
  rcases takeLimited_cases n d with ⟨_, e⟩ | ⟨_, _, e⟩ | ⟨_, _, e⟩
  all_goals rw [e] at t; cases t; simp; omega

theorem limEv_stopReplies (a : Int) (why : Stop) : ∀ ev ∈ stopReplies why, LimEv a ev := by
  cases why <;> simp [stopReplies, LimEv]

theorem limEv_stop (a : Int) (why : Stop) {x : Ev} (hx : LimEv a x) :
    ∀ ev ∈ stopReplies why ++ [x], LimEv a ev :=
  List.forall_mem_append.2 ⟨limEv_stopReplies a why, by simpa using hx⟩

section
variable {a : Int} (ha : allowance cfg.limit = a)
include ha

theorem remains_idle (i : Nat) : Remains a [] (allowance (limitFor cfg [] i)) := by
  rw [limitFor_nil, ha]
  unfold Remains allowance at *
  split at ha <;> simp <;> omega

theorem lim_stop (st : RState) (why : Stop) (hI : LimInv a st) (hw : why ≠ .limit) :
    ∀ ev ∈ stopIn inf cfg [] st why, LimEv a ev := by
  unfold stopIn
  split
  · exact limEv_stop a why hw
  · next typ acc n hm =>
    have := (hI _ _ _ hm).lt
    exact limEv_stop a why ⟨(absurd · hw), by omega⟩
  · exact limEv_stop a why ⟨(absurd · hw), (takeLimited_remains (remains_idle cfg ha _) rfl).1⟩

theorem lim_data (st : RState) (h : Header) (d : Bytes) (evs : List Ev) (o : Option RState)
    (hI : LimInv a st) (e : dataStep inf cfg [] st h d = (evs, o)) :
    (∀ ev ∈ evs, LimEv a ev) ∧ ∀ st', o = some st' → LimInv a st' := by
  rcases dataStep_view inf cfg [] st h d with e' | ⟨_, _, _, e'⟩ | ⟨typ, acc, n, _, hm, e'⟩
  all_goals rw [e] at e'
  · cases e'
    exact ⟨lim_stop inf cfg ha st .proto hI (by simp), nofun⟩
  · cases e'
    exact ⟨nofun, fun _ e => by cases e; exact nofun⟩
  · have hl : Remains a acc n := by
      rcases hm with hm | ⟨rfl, rfl⟩
      · exact hI _ _ _ hm
      · exact remains_idle cfg ha _
    rcases t : takeLimited n d with ⟨out, n', hit⟩
    obtain ⟨h1, h2, h3⟩ := takeLimited_remains hl t
    rw [t] at e'
    cases hit <;> cases e'
    · exact ⟨nofun, fun _ e => by cases e; intro _ _ _ hm; cases hm; exact h3 rfl⟩
    · exact ⟨limEv_stop a .limit ⟨fun _ => h2 rfl, h1⟩, nofun⟩

theorem lim_fin (st : RState) (evs : List Ev) (o : Option RState)
    (hI : LimInv a st) (e : finishMsg inf cfg [] st = (evs, o)) :
    (∀ ev ∈ evs, LimEv a ev) ∧ ∀ st', o = some st' → LimInv a st' := by
  have hidle : ∀ st' : RState, st'.mode = .idle → LimInv a st' := fun _ h _ _ _ hm => by
    rw [h] at hm; cases hm
  revert e
  -- the cases in the order of the definition: idle; plain; compressed, where the plaintext goes
  -- through the limit reader in one piece: over the limit, not inflating, delivered
  fun_cases finishMsg inf cfg [] st <;> intro e <;> cases e
  · exact ⟨nofun, fun _ e => by cases e; exact hI⟩
  · next hm =>
    exact ⟨by simpa [LimEv] using (hI _ _ _ hm).lt, fun _ e => by cases e; exact hidle _ rfl⟩
  · next t =>
    obtain ⟨h1, h2, -⟩ := takeLimited_remains (remains_idle cfg ha _) t
    exact ⟨limEv_stop a .limit ⟨fun _ => h2 rfl, h1⟩, nofun⟩
  · next t _ _ =>
    exact ⟨limEv_stop a .inflate ⟨nofun, (takeLimited_remains (remains_idle cfg ha _) t).1⟩, nofun⟩
  · next t hh _ =>
    have := ((takeLimited_remains (remains_idle cfg ha _) t).2.2 (by simpa using hh)).lt
    exact ⟨by simpa [LimEv] using this, fun _ e => by cases e; exact hidle _ rfl⟩

theorem lim_run (fs : List Frame) (st : RState) (tl : Tail) (hI : LimInv a st) :
    ∀ ev ∈ runReader inf cfg [] st fs tl, LimEv a ev :=
  runReader_forall inf cfg [] (LimEv a) (LimInv a) (fun _ => trivial)
    (fun st why => lim_stop inf cfg ha st why) (lim_data inf cfg ha) (lim_fin inf cfg ha) fs st tl hI

end

theorem specRun_append (p : Pending) (a b : List Frame) :
    specRun p (a ++ b) =
      ((specRun p a).1 ++ (specRun (specRun p a).2 b).1, (specRun (specRun p a).2 b).2) := by
  induction a generalizing p with
  | nil => simp [specRun]
  | cons f a ih => simp [specRun, ih]

theorem validSeq_append (L : Int) (p : Pending) (a b : List Frame)
    (hv : ValidSeq cfg L p (a ++ b)) :
    ValidSeq cfg L p a ∧ ValidSeq cfg L (specRun p a).2 b := by
  induction a generalizing p with
  | nil => exact ⟨trivial, hv⟩
  | cons f a ih =>
    obtain ⟨h1, h2, h3, h4, h5⟩ := hv
    obtain ⟨i1, i2⟩ := ih _ h5
    exact ⟨⟨h1, h2, h3, h4, i1⟩, i2⟩

end WS.Proofs.ReaderInv
