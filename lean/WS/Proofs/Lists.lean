/-
  A list indexed by connection or thread number, seen as a partial function: `set` at an index that is there is a
  function update, `++ [x]` defines the next index; a table read with a default (`getD`) answers with the default exactly
  outside its range.
-/
namespace List

theorem getElem?_set_of_getElem? {α} {l : List α} {i : Nat} {c : α} (h : l[i]? = some c) (x : α) (k : Nat) :
    (l.set i x)[k]? = if k = i then some x else l[k]? := by
  simp only [getElem?_set, (getElem?_eq_some_iff.mp h).1, if_true, eq_comm (a := k)]

theorem getElem?_append_singleton {α} (l : List α) (x : α) (k : Nat) :
    (l ++ [x])[k]? = if k = l.length then some x else l[k]? := by
  rw [getElem?_append]
  split
  · rw [if_neg (by omega)]
  · split
    · simp [*]
    · rw [getElem?_eq_none (by simp; omega), getElem?_eq_none (by omega)]

theorem getD_of_le {α} {l : List α} {n : Nat} (d : α) (h : l.length ≤ n) : l.getD n d = d := by
  simp [getD_eq_getElem?_getD, getElem?_eq_none h]

theorem lt_of_getD_ne {α} {l : List α} {n : Nat} {d : α} (h : l.getD n d ≠ d) : n < l.length :=
  Nat.lt_of_not_le fun hle => h (getD_of_le d hle)

theorem lt_of_getElem? {α} {l : List α} {t : Nat} {n : α} (h : l[t]? = some n) : t < l.length :=
  (getElem?_eq_some_iff.1 h).1

theorem getElem?_push_of_some {α} {l : List α} {t : Nat} {e k : α} (h : l[t]? = some k) :
    (l ++ [e])[t]? = some k := by
  rw [getElem?_append_left (lt_of_getElem? h)]; exact h

end List
