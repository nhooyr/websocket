import WS.Model.AcceptResp
/-
  Lemmas about the string and header functions of the handshake models: what `trimSpace`,
  `splitOnChar` and `headerTokens` do on plain tokens, how `Hdr.values` sees a header that was built
  by `::`, `++` and `Hdr.set`, and from these the header values of the response Accept writes.
  Everything a handshake function asks of a header it asks through `Hdr.values`, so the lemmas about
  requests and responses are stated with a hypothesis `h.values k = …` and hold of any such header.
-/
namespace WS.Proofs.HandshakeE2E
open WS WS.Model

theorem trimLeft_noSpace (t : Str) (h : ∀ c ∈ t, isSpace c = false) : trimLeft t = t := by
  cases t with
  | nil => rfl
  | cons c cs => simp [trimLeft, h c (by simp)]

theorem trimSpace_noSpace (t : Str) (h : ∀ c ∈ t, isSpace c = false) : trimSpace t = t := by
  unfold trimSpace
  rw [trimLeft_noSpace t h, trimLeft_noSpace t.reverse (by simpa using h)]
  simp

theorem splitOnChar_eq_cons (sep : Char) (t : Str) : ∃ p ps, splitOnChar sep t = p :: ps := by
  cases t with
  | nil => exact ⟨_, _, rfl⟩
  | cons c cs =>
    unfold splitOnChar
    split
    · exact ⟨_, _, rfl⟩
    · split <;> exact ⟨_, _, rfl⟩

theorem splitOnChar_append (sep : Char) (x rest : Str) (h : ∀ c ∈ x, (c == sep) = false) :
    splitOnChar sep (x ++ rest) =
      (x ++ (splitOnChar sep rest).headD []) :: (splitOnChar sep rest).tail := by
  induction x with
  | nil => obtain ⟨p, ps, e⟩ := splitOnChar_eq_cons sep rest; simp [e]
  | cons c cs ih => simp_all [splitOnChar]

theorem split_joinComma (sps : List Str) (hne : sps ≠ []) (h : ∀ t ∈ sps, ∀ c ∈ t, (c == ',') = false) :
    splitOnChar ',' (joinComma sps) = sps := by
  induction sps with
  | nil => exact absurd rfl hne
  | cons x rest ih =>
    cases rest with
    | nil => simpa [joinComma, splitOnChar] using splitOnChar_append ',' x [] (h x (by simp))
    | cons y rest' =>
      have e : splitOnChar ',' (',' :: joinComma (y :: rest')) = [] :: y :: rest' := by
        rw [splitOnChar, ih (by simp) fun t ht => h t (by simp [ht])]; rfl
      show splitOnChar ',' (x ++ [','] ++ joinComma (y :: rest')) = _
      rw [List.append_assoc, splitOnChar_append ',' x _ (h x (by simp))]
      simp [e]

theorem mem_joinComma {c : Char} : ∀ {sps : List Str}, c ∈ joinComma sps → c = ',' ∨ ∃ t ∈ sps, c ∈ t
  | [], hc => by simp [joinComma] at hc
  | [x], hc => .inr ⟨x, by simp, hc⟩
  | x :: y :: rest, hc => by
    simp only [joinComma, List.mem_append, List.mem_singleton] at hc
    rcases hc with (hc | hc) | hc
    · exact .inr ⟨x, by simp, hc⟩
    · exact .inl hc
    · exact (mem_joinComma hc).imp id fun ⟨t, ht, hct⟩ => ⟨t, by simp [ht], hct⟩

theorem plain_chars {t : Str} (h : plainToken t = true) :
    (∀ c ∈ t, (c == ',') = false) ∧ (∀ c ∈ t, isSpace c = false) := by
  simp only [plainToken, Bool.and_eq_true, List.all_eq_true, Bool.not_eq_true'] at h
  exact ⟨fun c hc => by simpa using (h.2 c hc).1, fun c hc => (h.2 c hc).2⟩

theorem equalFold_refl (a : Str) : equalFold a a = true := by simp [equalFold]

/-- header names are compared as strings, never as the character lists `s` makes of them: the kernel evaluates
`s "literal"` in time quadratic in the literal's length. -/
theorem s_inj {a b : String} : s a = s b ↔ a = b := String.toList_inj

theorem s_beq (a b : String) : (s a == s b) = (a == b) := by
  rw [Bool.eq_iff_iff]; simp [s_inj]

theorem s_append (a b : String) : s a ++ s b = s (a ++ b) := String.toList_append.symm

theorem values_nil (k : Str) : Hdr.values [] k = [] := rfl

theorem values_cons (k' : Str) (vs : List Str) (h : Hdr) (k : Str) :
    Hdr.values ((k', vs) :: h) k = if k' = k then vs ++ h.values k else h.values k := by
  simp only [Hdr.values, List.filter_cons, beq_iff_eq]
  split <;> simp

theorem values_append (a b : Hdr) (k : Str) : Hdr.values (a ++ b) k = a.values k ++ b.values k := by
  simp [Hdr.values]

theorem values_set (h : Hdr) (k v k' : Str) :
    (h.set k v).values k' = if k = k' then [v] else h.values k' := by
  simp only [Hdr.set, values_append, values_cons, values_nil]
  split
  · next e => subst e; simp [Hdr.values]
  · next e =>
    -- an entry under `k'` passes the filter of `Hdr.set`, which drops the entries under `k`
    have : ∀ a : Str × List Str, (a.1 == k' && a.1 != k) = (a.1 == k') := fun a => by
      by_cases h : a.1 = k' <;> simp [h, Ne.symm e]
    simp only [Hdr.values, List.filter_filter, this, List.append_nil]

theorem get_of_values {h : Hdr} {k v : Str} {vs : List Str} (e : h.values k = v :: vs) : h.get k = v := by
  simp [Hdr.get, e]

theorem get_of_values_opt {h : Hdr} {k v : Str} (e : h.values k = if v.isEmpty then [] else [v]) :
    h.get k = v := by
  cases v <;> simp_all [Hdr.get]

theorem tokens_joinComma {h : Hdr} {k : Str} {sps : List Str} (hsps : ∀ t ∈ sps, plainToken t = true)
    (hv : h.values k = if sps.isEmpty then [] else [joinComma sps]) : headerTokens h k = sps := by
  have hc : ∀ t ∈ sps, ∀ c ∈ t, (c == ',') = false := fun t ht => (plain_chars (hsps t ht)).1
  have hs : ∀ t ∈ sps, ∀ c ∈ t, isSpace c = false := fun t ht => (plain_chars (hsps t ht)).2
  by_cases hne : sps = []
  · simp [headerTokens, hv, hne]
  have hj : ∀ c ∈ joinComma sps, isSpace c = false := fun c hc =>
    (mem_joinComma hc).elim (fun e => e ▸ by decide) fun ⟨t, ht, hct⟩ => hs t ht c hct
  simp only [headerTokens, hv, List.isEmpty_iff, hne, if_false, List.flatMap_cons, List.flatMap_nil,
    List.append_nil, trimSpace_noSpace _ hj, split_joinComma sps hne hc]
  exact (List.map_congr_left fun t ht => trimSpace_noSpace t (hs t ht)).trans (List.map_id _)

/-- `Connection: Upgrade` and `Upgrade: websocket` pass the token tests of both sides. -/
theorem upgrade_tokens {h : Hdr} (hc : h.values (s "Connection") = [s "Upgrade"])
    (hu : h.values (s "Upgrade") = [s "websocket"]) :
    headerContainsToken h (s "Connection") (s "Upgrade") = true ∧
    headerContainsToken h (s "Upgrade") (s "websocket") = true ∧
    headerContainsToken h (s "Upgrade") (s "WebSocket") = true := by
  simp only [headerContainsToken, headerTokens, hc, hu]
  decide +kernel

theorem select_mem (r : Req) (serverProtos : List Str) :
    selectSubprotocol r serverProtos = [] ∨
      selectSubprotocol r serverProtos ∈ headerTokens r.hdr (s "Sec-Websocket-Protocol") := by
  unfold selectSubprotocol
  fun_induction selectSubprotocol.go (headerTokens r.hdr (s "Sec-Websocket-Protocol")) serverProtos
  · exact .inl rfl
  · exact .inr (List.mem_of_find?_eq_some ‹_›)
  · assumption

theorem resp_values (r : Req) (serverProtos : List Str) (mode : Nat) :
    let R := acceptResponse r serverProtos mode
    R.values (s "Connection") = [s "Upgrade"] ∧ R.values (s "Upgrade") = [s "websocket"] ∧
    R.values (s "Sec-Websocket-Accept") = [secWebSocketAccept (trimSpace (r.hdr.get (s "Sec-Websocket-Key")))] ∧
    R.values (s "Sec-Websocket-Protocol") =
      (if (selectSubprotocol r serverProtos).isEmpty then [] else [selectSubprotocol r serverProtos]) ∧
    R.values (s "Sec-Websocket-Extensions") =
      (match selectDeflate (websocketExtensions r.hdr) mode with
       | some c => [coptsString c]
       | none => []) := by
  simp only [acceptResponse]
  split <;> split <;> simp [values_cons, values_nil, s_inj, *]

end WS.Proofs.HandshakeE2E
