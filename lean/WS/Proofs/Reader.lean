import WS.Spec.ReadSpec
import WS.Proofs.FrameCodec
/-
  The reader model's functions one by one (`headerCheck`, `takeLimited`, `stopIn`, `dataStep`,
  `finishMsg`), `runReader` frame kind by frame kind, a message taken in without a read limit
  (`receiving`, `Absorbs`: what the round trip C01 needs of the reader), and the simulation of the
  reference semantics on valid streams (C03).
-/
namespace WS.Proofs.Reader
open WS WS.Model WS.Spec WS.Props.FrameCodec

variable (inf : Inflate) (cfg : RCfg) (limits : List Int)

theorem isControl_iff (op : Nat) : isControl op = true ↔ op = 8 ∨ op = 9 ∨ op = 10 := by
  simp [isControl, opClose, opPing, opPong, or_assoc]

theorem isData_iff (op : Nat) : isData op = true ↔ op = 0 ∨ op = 1 ∨ op = 2 := by
  simp [isData, opCont, opText, opBinary, or_assoc]

theorem rsv1Illegal_eq_false (h : Header) :
    rsv1Illegal cfg h = false ↔ cfg.flate = true ∧ (h.opcode = opText ∨ h.opcode = opBinary) := by
  cases hf : cfg.flate <;> simp [rsv1Illegal, hf, Decidable.imp_iff_not_or]

theorem ite_some_eq_none {α} {c : Prop} [Decidable c] {a : α} {b : Option α} :
    (if c then some a else b) = none ↔ ¬c ∧ b = none := by
  split <;> simp [*]

/-- The code's checks and the RFC's conditions correspond group by group: reserved bits, masking,
opcode with the control-frame rules. -/
theorem headerCheck_iff (h : Header) : headerCheck cfg h = none ↔ HeaderOK cfg h := by
  have rsv : ¬ ((h.rsv1 && rsv1Illegal cfg h) || h.rsv2 || h.rsv3) = true ↔
      h.rsv2 = false ∧ h.rsv3 = false ∧
        (h.rsv1 = true → cfg.flate = true ∧ (h.opcode = opText ∨ h.opcode = opBinary)) := by
    cases h.rsv1 <;> cases h.rsv2 <;> cases h.rsv3 <;> simp [rsv1Illegal_eq_false]
  have mask : ¬ (!cfg.client && !h.masked) = true ∧ ¬ (cfg.client && h.masked) = true ↔
      h.masked = !cfg.client := by
    cases cfg.client <;> cases h.masked <;> decide
  have op : (if isControl h.opcode then
        (if h.len > maxControlPayload then some Stop.proto else if !h.fin then some .proto else none)
      else if isData h.opcode then none else some .proto) = none ↔
      (h.opcode = 0 ∨ h.opcode = 1 ∨ h.opcode = 2 ∨ h.opcode = 8 ∨ h.opcode = 9 ∨ h.opcode = 10) ∧
        (8 ≤ h.opcode → h.len ≤ 125 ∧ h.fin = true) := by
    by_cases hc : isControl h.opcode = true
    · have : 8 ≤ h.opcode ∧
          (h.opcode = 0 ∨ h.opcode = 1 ∨ h.opcode = 2 ∨ h.opcode = 8 ∨ h.opcode = 9 ∨ h.opcode = 10) := by
        have := (isControl_iff _).1 hc; omega
      simp [hc, ite_some_eq_none, maxControlPayload, this]
    · have := (not_congr (isControl_iff _)).1 hc
      simp [hc, isData_iff]
      omega
  simp only [headerCheck, ite_some_eq_none, HeaderOK, rsv, op, ← mask, and_assoc]

theorem headerCheck_some (h : Header) (why : Stop) (hc : headerCheck cfg h = some why) :
    why = .proto ∨ why = .protoNoClose := by
  revert hc
  fun_cases headerCheck cfg h
  all_goals intro hc; cases hc
  all_goals simp

theorem headerCheck_none_kind (h : Header) (hc : headerCheck cfg h = none) :
    h.opcode = opPing ∨ h.opcode = opPong ∨ h.opcode = opClose ∨ isData h.opcode = true := by
  have := ((headerCheck_iff cfg h).1 hc).2.2.2.2.1
  rw [isData_iff, opPing, opPong, opClose]
  omega

theorem limitFor_nil (i : Nat) : limitFor cfg [] i = cfg.limit := by
  simp [limitFor]

theorem takeLimited_cases (n : Int) (d : Bytes) :
    (n < 0 ∧ takeLimited n d = (d, n, false)) ∨
    (0 ≤ n ∧ (d.length : Int) < n ∧ takeLimited n d = (d, n - d.length, false)) ∨
    (0 ≤ n ∧ n ≤ (d.length : Int) ∧ takeLimited n d = (d.take n.toNat, 0, true)) := by
  unfold takeLimited
  by_cases h1 : n < 0
  · simp [h1]
  · by_cases h2 : (d.length : Int) < n
    · simp [h1, h2]; omega
    · simp [h1, h2]; omega

/-- events other than a complete message or a Pong. -/
def Quiet : Ev → Prop
  | .msg _ _ => False
  | .reply op _ => op = opClose
  | _ => True

/-- what an observer sees when reading stops: no message, no Pong, and a failure is reported. -/
def Stopped (evs : List Ev) : Prop := (∀ ev ∈ evs, Quiet ev) ∧ ∃ ev ∈ evs, isFailure ev = true

theorem quiet_not_msg {ev : Ev} (h : Quiet ev) : isMsg ev = false := by
  cases ev <;> first | rfl | exact h.elim

theorem stopReplies_quiet (why : Stop) : ∀ ev ∈ stopReplies why, Quiet ev := by
  cases why <;> simp [stopReplies, Quiet]

/-- every way of stopping has this form: the Close frame written back, if any, then one failure. -/
theorem stopped_of_last (why : Stop) {x : Ev} (hq : Quiet x) (hf : isFailure x = true) :
    Stopped (stopReplies why ++ [x]) :=
  ⟨fun ev hev => (List.mem_append.1 hev).elim (stopReplies_quiet why ev) fun h => List.mem_singleton.1 h ▸ hq,
    x, by simp, hf⟩

theorem stopIn_stopped (st : RState) (why : Stop) : Stopped (stopIn inf cfg limits st why) := by
  unfold stopIn
  split <;> exact stopped_of_last why trivial rfl

section equations
variable {inf cfg limits} {st : RState} {f : Frame} {rest : List Frame} {tl : Tail}

/-- a continuation with no message in progress, or anything else while one is: protocol error. -/
theorem dataStep_out_of_sequence {h : Header} (d : Bytes)
    (hs : st.mode = .idle ↔ h.opcode = opCont) :
    dataStep inf cfg limits st h d = (stopIn inf cfg limits st .proto, none) := by
  fun_cases dataStep inf cfg limits st h d
  all_goals simp_all

theorem runReader_nil_clean :
    runReader inf cfg limits st [] .clean = stopIn inf cfg limits st .io := by
  rw [runReader]

theorem runReader_nil_cases (st : RState) (tl : Tail) :
    (∃ why, why ≠ .limit ∧ runReader inf cfg limits st [] tl = stopIn inf cfg limits st why) ∨
    ∃ h d, runReader inf cfg limits st [] tl =
      match dataStep inf cfg limits st h d with
      | (evs, none) => evs
      | (evs, some st') => evs ++ stopIn inf cfg limits st' .io := by
  cases tl with
  | shortPayload h avail =>
    rw [runReader]
    split
    · next why hc =>
      exact .inl ⟨why, by rcases headerCheck_some cfg h why hc with rfl | rfl <;> simp, rfl⟩
    · split
      · exact .inl ⟨.io, by simp, rfl⟩
      · exact .inr ⟨h, _, rfl⟩
  | _ => rw [runReader]; exact .inl ⟨_, by simp, rfl⟩

theorem runReader_bad {why : Stop} (hc : headerCheck cfg f.h = some why) :
    runReader inf cfg limits st (f :: rest) tl = stopIn inf cfg limits st why := by
  rw [runReader, hc]

theorem runReader_ping (hc : headerCheck cfg f.h = none) (ho : f.h.opcode = opPing) :
    runReader inf cfg limits st (f :: rest) tl =
      .reply opPong f.data :: runReader inf cfg limits st rest tl := by
  rw [runReader, hc]
  simp [ho]

theorem runReader_pong (hc : headerCheck cfg f.h = none) (ho : f.h.opcode = opPong) :
    runReader inf cfg limits st (f :: rest) tl = runReader inf cfg limits st rest tl := by
  rw [runReader, hc]
  simp [ho, opPing, opPong]

theorem runReader_close (hc : headerCheck cfg f.h = none) (ho : f.h.opcode = opClose) :
    runReader inf cfg limits st (f :: rest) tl =
      stopIn inf cfg limits st
        (match parseClosePayload f.data with
         | .bad => .proto
         | .ok code reason => .peerClose code reason) := by
  rw [runReader, hc, ho]
  cases parseClosePayload f.data <;> rfl

theorem runReader_data (hc : headerCheck cfg f.h = none) (hd : isData f.h.opcode = true) :
    runReader inf cfg limits st (f :: rest) tl =
      match dataStep inf cfg limits st f.h f.data with
      | (evs, none) => evs
      | (evs, some st') =>
        if f.h.fin then
          match finishMsg inf cfg limits st' with
          | (evs2, none) => evs ++ evs2
          | (evs2, some st'') => evs ++ evs2 ++ runReader inf cfg limits st'' rest tl
        else evs ++ runReader inf cfg limits st' rest tl := by
  rcases (isData_iff _).1 hd with h | h | h <;> rw [runReader, hc, h] <;> rfl

theorem readStream_of_parse {s : Bytes} {fs : List Frame} (h : parseFrames s = (fs, tl)) :
    readStream inf cfg limits s = runReader inf cfg limits initR fs tl := by
  rw [readStream, h]

end equations

/-- a message being received without a read limit (the allowance `-1`): its compressed bytes collected so far, or its
bytes handed out so far. -/
def receiving : Bool → Nat → Bytes → Mode
  | true, typ, z => .comp typ z
  | false, typ, acc => .plain typ acc (-1)

section receiving
variable {cfg} (dict : Bytes) (idx : Nat) {h : Header} (d : Bytes)

theorem dataStep_idle (hL : cfg.limit < 0) (ho : h.opcode ≠ opCont) :
    dataStep inf cfg [] ⟨.idle, dict, idx⟩ h d = ([], some ⟨receiving h.rsv1 h.opcode d, dict, idx + 1⟩) := by
  cases hr : h.rsv1 <;> simp [dataStep, ho, hr, receiving, limitFor_nil, allowance, hL, takeLimited]

theorem dataStep_receiving (c : Bool) (typ : Nat) (acc : Bytes) (ho : h.opcode = opCont) :
    dataStep inf cfg [] ⟨receiving c typ acc, dict, idx⟩ h d = ([], some ⟨receiving c typ (acc ++ d), dict, idx⟩) := by
  cases c <;> simp [dataStep, ho, receiving, takeLimited]

theorem finishMsg_plain (typ : Nat) (acc : Bytes) :
    finishMsg inf cfg [] ⟨receiving false typ acc, dict, idx⟩ = ([.msg typ acc], some ⟨.idle, dict, idx⟩) :=
  rfl

theorem finishMsg_comp (hL : cfg.limit < 0) (typ : Nat) (z out : Bytes)
    (hinf : inf dict (z ++ deflateTail) = ⟨out, true⟩) :
    finishMsg inf cfg [] ⟨receiving true typ z, dict, idx⟩ =
      ([.msg typ out], some ⟨.idle, if cfg.takeover then slide dict out else dict, idx⟩) := by
  simp [finishMsg, receiving, hinf, limitFor_nil, allowance, hL, takeLimited]

end receiving

/-- the reader in state `st` accepts the data frame `f` without an event and goes on in `st'`. -/
def Absorbs (st : RState) (f : Frame) (st' : RState) : Prop :=
  headerCheck cfg f.h = none ∧ f.h.opcode ≤ 2 ∧ dataStep inf cfg [] st f.h f.data = ([], some st')

section absorbs
variable {inf cfg} {st st' : RState} {f : Frame} (h : Absorbs inf cfg st f st')
include h

theorem Absorbs.step (rest : List Frame) (tl : Tail) :
    runReader inf cfg [] st (f :: rest) tl =
      if f.h.fin then
        match finishMsg inf cfg [] st' with
        | (evs, none) => evs
        | (evs, some st'') => evs ++ runReader inf cfg [] st'' rest tl
      else runReader inf cfg [] st' rest tl := by
  obtain ⟨hc, hop, hds⟩ := h
  rw [runReader_data hc ((isData_iff _).2 (by omega)), hds]
  rfl

theorem Absorbs.step_fin {st'' : RState} {evs : List Ev} (hfin : f.h.fin = true)
    (hfm : finishMsg inf cfg [] st' = (evs, some st'')) (rest : List Frame) (tl : Tail) :
    runReader inf cfg [] st (f :: rest) tl = evs ++ runReader inf cfg [] st'' rest tl := by
  rw [h.step, if_pos hfin, hfm]

theorem Absorbs.step_nf (hfin : f.h.fin = false) (rest : List Frame) (tl : Tail) :
    runReader inf cfg [] st (f :: rest) tl = runReader inf cfg [] st' rest tl := by
  rw [h.step, if_neg (by simp [hfin])]

end absorbs

/-- what `ValidSeq` asks of a data frame with header `h` and data `d` when `p` is pending. -/
def Fits (L : Int) (p : Pending) (h : Header) (d : Bytes) : Prop :=
  match p with
  | none => (h.opcode = opText ∨ h.opcode = opBinary) ∧ (L < 0 ∨ (d.length : Int) ≤ L)
  | some (_, acc) => h.opcode = opCont ∧ (L < 0 ∨ ((acc.length + d.length : Nat) : Int) ≤ L)

theorem Fits.take {L : Int} {p : Pending} {h : Header} {d : Bytes} (hf : Fits L p h d) (k : Nat) :
    Fits L p h (d.take k) := by
  match p with
  | none => exact ⟨hf.1, by have := hf.2; simp only [List.length_take]; omega⟩
  | some (_, _) => exact ⟨hf.1, by have := hf.2; simp only [List.length_take]; omega⟩

/-- the reference semantics' accumulation step. -/
def feed (p : Pending) (h : Header) (d : Bytes) : Nat × Bytes :=
  match p with
  | none => (h.opcode, d)
  | some (typ, acc) => (typ, acc ++ d)

/-- bytes that fit pass the limit reader whole, and the allowance left is again `stateOf`'s. -/
theorem takeLimited_fits (L : Int) (acc d : Bytes)
    (h : L < 0 ∨ ((acc.length + d.length : Nat) : Int) ≤ L) :
    takeLimited (if L < 0 then -1 else L + 1 - acc.length) d =
      (d, (if L < 0 then -1 else L + 1 - (acc ++ d).length), false) := by
  by_cases hl : L < 0
  · simp [hl, takeLimited]
  · rcases takeLimited_cases (L + 1 - acc.length) d with ⟨_, _⟩ | ⟨_, _, t⟩ | ⟨_, _, _⟩
    · omega
    · simp only [hl, if_false, t, List.length_append, Prod.mk.injEq, true_and, and_true]; omega
    · omega

theorem dataStep_stateOf (L : Int) (hL : cfg.limit = L) (dict : Bytes) (idx : Nat) (p : Pending)
    (h : Header) (d : Bytes) (hr : h.rsv1 = false) (hfit : Fits L p h d) :
    dataStep inf cfg [] (stateOf L dict idx p) h d =
      ([], some (stateOf L dict (idx + if h.opcode == opText || h.opcode == opBinary then 1 else 0)
        (some (feed p h d)))) := by
  match p, hfit with
  | none, ⟨hop, hlen⟩ =>
    have e : (h.opcode == opCont) = false ∧ (h.opcode == opText || h.opcode == opBinary) = true := by
      rcases hop with h | h <;> rw [h] <;> decide
    have t := takeLimited_fits L [] d (by simpa using hlen)
    simp only [List.length_nil, Int.natCast_zero, Int.sub_zero, List.nil_append] at t
    simp [dataStep, stateOf, feed, e, hr, limitFor_nil, hL, allowance, t]
  | some (typ, acc), ⟨hop, hlen⟩ =>
    simp [dataStep, stateOf, feed, hop, takeLimited_fits L acc d hlen, opCont, opText, opBinary]

theorem finishMsg_stateOf (L : Int) (dict : Bytes) (idx : Nat) (ta : Nat × Bytes) :
    finishMsg inf cfg limits (stateOf L dict idx (some ta)) =
      ([.msg ta.1 ta.2], some (stateOf L dict idx none)) := rfl

theorem stopIn_stateOf_io (L : Int) (dict : Bytes) (idx : Nat) (q : Pending) :
    stopIn inf cfg limits (stateOf L dict idx q) .io =
      [match q with
       | none => .fail .io
       | some (typ, acc) => .partialMsg typ acc .io false] := by
  match q with
  | none => rfl
  | some (_, _) => rfl

theorem specStep_data (p : Pending) (f : Frame) (hd : isData f.h.opcode = true) :
    specStep p f =
      if f.h.fin then ([.msg (feed p f.h f.data).1 (feed p f.h f.data).2], none)
      else ([], some (feed p f.h f.data)) := by
  have := (isData_iff _).1 hd
  have h9 : f.h.opcode ≠ opPing := by simp [opPing]; omega
  have h10 : f.h.opcode ≠ opPong := by simp [opPong]; omega
  match p with
  | none => simp [specStep, h9, h10, feed]
  | some (_, _) => simp [specStep, h9, h10, feed]

theorem runReader_valid_cons (L : Int) (hL : cfg.limit = L) (p : Pending) (dict : Bytes) (idx : Nat)
    (f : Frame) (fs : List Frame) (tl : Tail)
    (hok : HeaderOK cfg f.h) (hr : f.h.rsv1 = false) (hnc : f.h.opcode ≠ opClose)
    (hfit : f.h.opcode ≤ 2 → Fits L p f.h f.data) :
    runReader inf cfg [] (stateOf L dict idx p) (f :: fs) tl =
      (specStep p f).1 ++ runReader inf cfg []
        (stateOf L dict (idx + (if (f.h.opcode == opText || f.h.opcode == opBinary) then 1 else 0))
          (specStep p f).2) fs tl := by
  have hc := (headerCheck_iff cfg f.h).2 hok
  rcases headerCheck_none_kind cfg f.h hc with ho | ho | ho | hd
  · rw [runReader_ping hc ho]
    simp [specStep, ho, opPing, opText, opBinary]
  · rw [runReader_pong hc ho]
    simp [specStep, ho, opPing, opPong, opText, opBinary]
  · exact absurd ho hnc
  · have hfit := hfit (by have := (isData_iff _).1 hd; omega)
    rw [runReader_data hc hd, dataStep_stateOf inf cfg L hL dict idx p f.h f.data hr hfit,
      specStep_data p f hd]
    cases f.h.fin
    · simp
    · simp [finishMsg_stateOf]

/-- What follows the valid sequence is arbitrary.  `b = []`: `valid_run`; `b` beginning with a violation: the
messages before it are delivered, then `runReader_bad` and its like apply. -/
theorem valid_run_append (L : Int) (hL : cfg.limit = L) (p : Pending) (dict : Bytes) (idx : Nat)
    (a b : List Frame) (tl : Tail) (hv : ValidSeq cfg L p a) :
    runReader inf cfg [] (stateOf L dict idx p) (a ++ b) tl =
      (specRun p a).1 ++ runReader inf cfg []
        (stateOf L dict (idx + (a.filter (fun f => f.h.opcode == opText || f.h.opcode == opBinary)).length)
          (specRun p a).2) b tl := by
  induction a generalizing p idx with
  | nil => simp [specRun]
  | cons f a ih =>
    obtain ⟨hok, hr, hnc, hfit, hrest⟩ := hv
    rw [List.cons_append, runReader_valid_cons inf cfg L hL p dict idx f _ tl hok hr hnc hfit, ih _ _ hrest]
    simp only [specRun, List.append_assoc, List.filter_cons]
    congr 3
    cases (f.h.opcode == opText || f.h.opcode == opBinary)
    · simp
    · simp [Nat.add_assoc, Nat.add_comm]

theorem valid_run (L : Int) (hL : cfg.limit = L) (p : Pending) (dict : Bytes) (idx : Nat)
    (fs : List Frame) (tl : Tail) (hv : ValidSeq cfg L p fs) :
    runReader inf cfg [] (stateOf L dict idx p) fs tl =
      (specRun p fs).1 ++
        runReader inf cfg [] (stateOf L dict (idx + (fs.filter (fun f => f.h.opcode == opText || f.h.opcode == opBinary)).length) (specRun p fs).2) [] tl := by
  simpa using valid_run_append inf cfg L hL p dict idx fs [] tl hv

theorem valid_stream_decodes (L : Int) (hL : cfg.limit = L) (fs : List Frame)
    (hwf : ∀ f ∈ fs, Frame.WF f) (hv : ValidSeq cfg L none fs) :
    ∃ st, readStream inf cfg [] (encodeAll fs) = (specRun none fs).1 ++ stopIn inf cfg [] st .io := by
  rw [readStream_of_parse (FrameCodec.parse_encodeAll fs hwf)]
  exact ⟨_, runReader_nil_clean ▸ valid_run inf cfg L hL none [] 0 fs .clean hv⟩

end WS.Proofs.Reader
