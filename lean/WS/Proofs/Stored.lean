import WS.Spec.Inflate
/-
  Helper lemmas for WS.Props.C01Stored: the reference inflater `WS.Spec.inflate` on non-final
  stored blocks.  First, a `ByteArray` made from a list behaves as the list (`List.toByteArray`:
  its `size` and `++` lemmas are in core; `get!`, `extract`, `toList` here).  Then the bit reader
  and `blocks` on an arbitrary `ByteArray`, read from a byte boundary; lists come back in
  `stored_step` and `inflate_of_blocks`.
-/
namespace WS.Proofs.Stored
open WS WS.Spec

theorem mk_toArray (l : Bytes) : ByteArray.mk l.toArray = l.toByteArray := ByteArray.ext (by simp)

theorem get!_toByteArray (l : Bytes) (i : Nat) : l.toByteArray.get! i = l[i]! := by
  simp [ByteArray.get!]

theorem extract_toByteArray (l : Bytes) (i j : Nat) :
    l.toByteArray.extract i j = ((l.drop i).take (j - i)).toByteArray :=
  ByteArray.ext (by simp)

theorem toList_loop (bs : ByteArray) (i : Nat) (r : List UInt8) :
    ByteArray.toList.loop bs i r = r.reverse ++ bs.data.toList.drop i := by
  fun_induction ByteArray.toList.loop bs i r with
  | case1 i r h ih =>
    rw [ih, List.drop_eq_getElem_cons (i := i) (by simpa using h)]
    simp [ByteArray.get!, h]
  | case2 i r h => simp [List.drop_eq_nil_of_le (Nat.le_of_not_lt h)]

theorem toList_eq (bs : ByteArray) : bs.toList = bs.data.toList := by
  simp [ByteArray.toList, toList_loop]

theorem bit?_eq (bs : ByteArray) (n k : Nat) (hk : k < 8) :
    BR.bit? ⟨bs, 8 * n + k⟩ =
      if n < bs.size then some (((bs.get! n).toNat >>> k) % 2, ⟨bs, 8 * n + k + 1⟩) else none := by
  simp [BR.bit?, Nat.mul_add_div, Nat.div_eq_of_lt hk, Nat.mod_eq_of_lt hk]

/-- the three header bits of a block that starts at byte `n` are the low bits of that byte. -/
theorem bits3 (bs : ByteArray) (n : Nat) :
    BR.bits? ⟨bs, 8 * n⟩ 3 =
      if n < bs.size then some ((bs.get! n).toNat % 8, ⟨bs, 8 * n + 3⟩) else none := by
  have b0 := bit?_eq bs n 0 (by omega)
  have b1 := bit?_eq bs n 1 (by omega)
  have b2 := bit?_eq bs n 2 (by omega)
  by_cases h : n < bs.size <;> simp [h] at b0 b1 b2 ⊢
  -- the loop of `bits?` runs over `List.range' 0 3`
  all_goals simp [BR.bits?, List.range', b0, b1, b2]
  -- bits 0, 1 and 2 of `x` make up `x % 8`
  rw [show 8 = 2 ^ 3 from rfl, Nat.mod_pow_succ, Nat.mod_pow_succ, Nat.mod_pow_succ]
  simp [Nat.shiftRight_eq_div_pow, Nat.shiftLeft_eq, Nat.mul_comm, Nat.mod_one]

theorem blocks_eof (bs o : ByteArray) (n fuel : Nat) (h : bs.size ≤ n) :
    blocks (fuel + 1) ⟨⟨bs, 8 * n⟩, o⟩ = (.needMore, ⟨⟨bs, 8 * n⟩, o⟩) := by
  rw [blocks, bits3, if_neg (Nat.not_lt.2 h)]

/-- a non-final stored block (RFC 1951 §3.2.4: BFINAL = 0, BTYPE = 00, padding, LEN, NLEN, the
bytes) that starts at byte `n` and is completely there is copied to the output. -/
theorem blocks_storedBlock (bs o : ByteArray) (n len fuel : Nat) (h0 : (bs.get! n).toNat % 8 = 0)
    (hlen : (bs.get! (n + 1)).toNat + 256 * (bs.get! (n + 2)).toNat = len)
    (hnlen : len + ((bs.get! (n + 3)).toNat + 256 * (bs.get! (n + 4)).toNat) = 65535)
    (hsz : n + 5 + len ≤ bs.size) :
    blocks (fuel + 1) ⟨⟨bs, 8 * n⟩, o⟩ =
      blocks fuel ⟨⟨bs, 8 * (n + 5 + len)⟩, o ++ bs.extract (n + 5) (n + 5 + len)⟩ := by
  have hp : (8 * n + 3 + 7) / 8 = n + 1 := by simp [Nat.add_assoc, Nat.mul_add_div]
  rw [blocks, bits3, if_pos (by omega), h0]
  simp only [hp, Nat.add_assoc, Nat.reduceAdd, hlen, hnlen]
  have h1 : ¬ n + 5 > bs.size := by omega
  have h2 : ¬ bs.size - (n + 5) < len := by omega
  simp [h1, h2]

theorem stored_step (z pre q rest : Bytes) (a b c d : UInt8) (o : ByteArray) (fuel : Nat)
    (hz : z = pre ++ 0 :: a :: b :: c :: d :: (q ++ rest))
    (hlen : a.toNat + 256 * b.toNat = q.length)
    (hnlen : c.toNat + 256 * d.toNat = 65535 - q.length) :
    blocks (fuel + 1) ⟨⟨z.toByteArray, 8 * pre.length⟩, o⟩ =
      blocks fuel ⟨⟨z.toByteArray, 8 * (pre.length + 5 + q.length)⟩, o ++ q.toByteArray⟩ := by
  have hq : q.length ≤ 65535 := by have := a.toNat_lt; have := b.toNat_lt; omega
  have hx : z.toByteArray.extract (pre.length + 5) (pre.length + 5 + q.length) = q.toByteArray := by
    rw [extract_toByteArray, hz]; simp
  rw [← hx]
  apply blocks_storedBlock
  -- first to lists, with `z` still a variable: simp would push `toByteArray` through `++`
  all_goals simp only [get!_toByteArray, List.size_toByteArray]
  all_goals simp [hz, hlen, hnlen]
  all_goals omega

/-- `inflate` strips the dictionary it put in front of the output buffer. -/
theorem inflate_of_blocks (dict z p : Bytes) (st : InfStatus) (r : BR)
    (h : blocks (z.length + 2) ⟨⟨z.toByteArray, 0⟩, dict.toByteArray⟩ =
      (st, ⟨r, dict.toByteArray ++ p.toByteArray⟩)) :
    inflate dict z = (st, p) := by
  simp [inflate, mk_toArray, h, ByteArray.extract_append_eq_right, toList_eq]
end WS.Proofs.Stored
