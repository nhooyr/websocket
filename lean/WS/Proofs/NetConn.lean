import WS.Model.NetConn
/-
  The model of netconn.go (WS/Model/NetConn.lean): one statement about a single `read`, `read_spec`, is behind all of
  C18's stream theorems.
-/
namespace WS.Proofs.NetConn
open WS WS.Model.NetConn

/-- the number of loop iterations `read` needs before it can return data. -/
def need (s : State) : Nat := 2 * s.rest.length + s.cur.isSome.toNat + 1

theorem read_spec (k fuel : Nat) (s : State) (h : ∀ m ∈ s.rest, m.typ = s.msgType) :
    (read k fuel s).2.msgType = s.msgType ∧ (∀ m ∈ (read k fuel s).2.rest, m.typ = s.msgType) ∧
    pending s = bytesOf [(read k fuel s).1] ++ pending (read k fuel s).2 ∧
    (1 ≤ k → s.failed = false → s.eofed = false → pending s ≠ [] → need s ≤ fuel →
      ∃ b, (read k fuel s).1 = .data b ∧ b ≠ [] ∧ b.length ≤ k) := by
  fun_induction read k fuel s
  -- the two iterations that only move on (an exhausted message, the next message): same `pending`, smaller `need`
  case case4 fuel s _ _ d hcur hd ih =>
    obtain ⟨i1, i2, i3, i4⟩ := ih h
    have hp : pending s = pending { s with cur := none } := by simp [pending, hcur, List.isEmpty_iff.mp hd]
    exact ⟨i1, i2, hp ▸ i3, fun hk hf he hne hn => i4 hk hf he (hp ▸ hne) (by simp [need, hcur] at hn ⊢; omega)⟩
  case case10 fuel s _ _ hcur m ms hrest hm ih =>
    obtain ⟨i1, i2, i3, i4⟩ := ih fun x hx => h x (by simp [hrest, hx])
    have hp : pending s = pending { s with cur := some m.data, rest := ms } := by simp [pending, hcur, hrest]
    exact ⟨i1, i2, hp ▸ i3, fun hk hf he hne hn => i4 hk hf he (hp ▸ hne) (by simp [need, hcur, hrest] at hn ⊢; omega)⟩
  -- bytes are there: they are returned
  case case5 fuel s _ _ d hcur hd =>
    refine ⟨rfl, h, by simp [pending, bytesOf, hcur, ← List.append_assoc],
      fun hk _ _ _ _ => ⟨_, rfl, ?_, List.length_take_le _ _⟩⟩
    cases d <;> cases k <;> simp_all
  -- out of fuel, failed, at EOF, end of the stream: nothing is returned and nothing is owed (`h` excludes a wrong type)
  all_goals simp_all [pending, bytesOf, need]

theorem reads_inv (ks : List Nat) (s : State) (h : ∀ m ∈ s.rest, m.typ = s.msgType) :
    pending s = bytesOf (reads ks s).1 ++ pending (reads ks s).2 := by
  induction ks generalizing s with
  | nil => simp [reads, bytesOf]
  | cons k ks ih =>
    obtain ⟨h1, h2, h3, -⟩ := read_spec k (2 * s.rest.length + 3) s h
    rw [h3, ih _ (h1 ▸ h2)]
    simp only [reads, readN]
    cases (read k (2 * s.rest.length + 3) s).1 <;> simp [bytesOf]

end WS.Proofs.NetConn
