import WS.Props.FrameCodecDefs
/-
  The header codec is taken apart byte by byte: the first byte (`b0n`, `b0n_dec`), the second byte
  (`b1_dec`), the extended length as big-endian digits (`beDigits`, `fromBE_beDigits`), the key.
  `encodeHeader_eq` and `decodeHeader_cons` put `encodeHeader` and `decodeHeader` in these terms;
  `lenClass` is the one place where the three length classes are told apart.  Then the parser of
  frame sequences: its step lemmas (`parseAux_ok`, `parseAux_needMore`), a well-formed prefix is
  parsed back (`parse_append`), and what a cut inside a frame leaves (`parse_cut`).  At the end:
  masking with the key's four wire bytes (`xorKeyFrom`).
-/
namespace WS.Proofs.FrameCodec
open WS WS.Model WS.Props.FrameCodec

/-- the `k` low base-256 digits of `n`, most significant first. -/
def beDigits : Nat → Nat → Bytes
  | 0, _ => []
  | k + 1, n => UInt8.ofNat (n / 256 ^ k % 256) :: beDigits k n

theorem beDigits_length (k n : Nat) : (beDigits k n).length = k := by
  induction k with
  | zero => rfl
  | succ k ih => simp [beDigits, ih]

theorem fromBE_beDigits (k n acc : Nat) : fromBE (beDigits k n) acc = acc * 256 ^ k + n % 256 ^ k := by
  induction k generalizing acc with
  | zero => simp [beDigits, fromBE, Nat.mod_one]
  | succ k ih =>
    have hd : n / 256 ^ k % 256 < UInt8.size := Nat.mod_lt _ (by decide)
    rw [beDigits, fromBE, ih, UInt8.toNat_ofNat_of_lt' hd, Nat.mod_pow_succ, Nat.pow_succ, Nat.add_mul]
    ac_rfl

theorem be16_eq (n : Nat) : be16 n = beDigits 2 n := by
  simp [be16, beDigits, UInt8.ofNat_mod_size']

theorem be64_eq (n : Nat) : be64 n = beDigits 8 n := by
  simp [be64, beDigits]

theorem fromBE_be16 (n : Nat) (h : n < 65536) : fromBE (be16 n) 0 = n := by
  rw [be16_eq, fromBE_beDigits, Nat.zero_mul, Nat.zero_add, Nat.mod_eq_of_lt h]

theorem fromBE_be64 (n : Nat) (h : n < 2^64) : fromBE (be64 n) 0 = n := by
  rw [be64_eq, fromBE_beDigits, Nat.zero_mul, Nat.zero_add, Nat.mod_eq_of_lt h]

theorem b2n_eq (b : Bool) (n : Nat) : b2n b n = n * b.toNat := by
  cases b <;> simp [b2n]

/-- the first header byte as a number: FIN, RSV1–3 and the opcode. -/
def b0n (fin r1 r2 r3 : Bool) (op : Nat) : Nat :=
  b2n fin 128 + b2n r1 64 + b2n r2 32 + b2n r3 16 + op % 16

theorem b0n_dec (fin r1 r2 r3 : Bool) (op : Nat) (hop : op < 16) :
    b0n fin r1 r2 r3 op < 256 ∧
    (b0n fin r1 r2 r3 op ≥ 128 ↔ fin = true) ∧ (b0n fin r1 r2 r3 op / 64 % 2 = 1 ↔ r1 = true) ∧
    (b0n fin r1 r2 r3 op / 32 % 2 = 1 ↔ r2 = true) ∧ (b0n fin r1 r2 r3 op / 16 % 2 = 1 ↔ r3 = true) ∧
    b0n fin r1 r2 r3 op % 16 = op := by
  have := fin.toNat_le; have := r1.toNat_le; have := r2.toNat_le; have := r3.toNat_le
  -- with `b = true` read as `b.toNat = 1` everything is linear
  simp only [b0n, b2n_eq, ← Bool.toNat_eq_one]
  omega

theorem b1_dec (m : Bool) (x : Nat) (hx : x ≤ 127) :
    (UInt8.ofNat (b2n m 128 + x)).toNat % 128 = x ∧ ((UInt8.ofNat (b2n m 128 + x)).toNat ≥ 128 ↔ m = true) := by
  have := m.toNat_le
  rw [UInt8.toNat_ofNat_of_lt' (by rw [b2n_eq]; show _ < 256; omega), b2n_eq, ← Bool.toNat_eq_one]
  omega

/-- `decodeHeader`'s three readers after the first byte, by name: a `k`-byte big-endian number (`readBE`), the length in
its three forms (`lenRes`), the key (`keyRes`); `none` = more bytes are needed. -/
def readBE (k : Nat) (r : Bytes) : Option (Nat × Bytes) :=
  if r.length ≥ k then some (fromBE (r.take k) 0, r.drop k) else none

theorem readBE_beDigits (k n : Nat) (h : n < 256 ^ k) (t : Bytes) :
    readBE k (beDigits k n ++ t) = some (n, t) := by
  have e := beDigits_length k n
  rw [readBE, if_pos (by rw [List.length_append, e]; omega), List.take_left' e, List.drop_left' e,
    fromBE_beDigits, Nat.mod_eq_of_lt h, Nat.zero_mul, Nat.zero_add]

theorem readBE_short {k : Nat} {t : Bytes} (h : t.length < k) : readBE k t = none :=
  if_neg (by omega)

def lenRes (b1 : UInt8) (r : Bytes) : Option (Nat × Bytes) :=
  if b1.toNat % 128 < 126 then some (b1.toNat % 128, r)
  else if b1.toNat % 128 = 126 then readBE 2 r else readBE 8 r

def keyRes (masked : Bool) (q : Bytes) : Option (Bytes × Bytes) :=
  if masked then (if q.length ≥ 4 then some (q.take 4, q.drop 4) else none) else some ([], q)

theorem decodeHeader_cons (b1 : UInt8) (r : Bytes) (fin v1 v2 v3 : Bool) (op : Nat) (hop : op < 16) :
    decodeHeader (UInt8.ofNat (b0n fin v1 v2 v3 op) :: b1 :: r) =
      match lenRes b1 r with
      | none => .needMore
      | some (len, q) =>
        if len ≥ 2^63 then .negative
        else match keyRes (b1.toNat ≥ 128) q with
          | none => .needMore
          | some (key, rest) => .ok ⟨fin, v1, v2, v3, op, len, b1.toNat ≥ 128, key⟩ rest := by
  obtain ⟨hlt, e1, e2, e3, e4, e5⟩ := b0n_dec fin v1 v2 v3 op hop
  simp only [decodeHeader, UInt8.toNat_ofNat_of_lt' hlt, e1, e2, e3, e4, e5, Bool.decide_eq_true]
  -- `decodeHeader`'s inline `if`s are `lenRes` and `keyRes` unfolded
  show (match lenRes b1 r with | none => _ | some (len, q) => _) = _
  cases lenRes b1 r with
  | none => rfl
  | some lq => by_cases hm : b1.toNat ≥ 128 <;> by_cases hq : lq.2.length ≥ 4 <;> simp [keyRes, hm, hq]

/-- the 7-bit length field, the number of extended-length bytes, and the key bytes `encodeHeader` writes. -/
def l7 (len : Nat) : Nat := if len ≤ 125 then len else if len ≤ 65535 then 126 else 127

def ext (len : Nat) : Nat := if len ≤ 125 then 0 else if len ≤ 65535 then 2 else 8

def keyPart (h : Header) : Bytes := if h.masked then h.key.take 4 else []

/-- the three length classes of RFC 6455 §5.2. -/
theorem lenClass (len : Nat) :
    len ≤ 125 ∧ l7 len = len ∧ ext len = 0 ∨
    125 < len ∧ len ≤ 65535 ∧ l7 len = 126 ∧ ext len = 2 ∨
    65535 < len ∧ l7 len = 127 ∧ ext len = 8 := by
  unfold l7 ext
  by_cases c1 : len ≤ 125
  · simp [c1]
  · by_cases c2 : len ≤ 65535 <;> simp [c1, c2] <;> omega

theorem l7_le (len : Nat) : l7 len ≤ 127 := by
  have := lenClass len; omega

theorem encodeHeader_eq (h : Header) :
    encodeHeader h = UInt8.ofNat (b0n h.fin h.rsv1 h.rsv2 h.rsv3 h.opcode) ::
      UInt8.ofNat (b2n h.masked 128 + l7 h.len) :: (beDigits (ext h.len) h.len ++ keyPart h) := by
  simp only [encodeHeader, keyPart, b0n]
  rcases lenClass h.len with ⟨c, e7, ee⟩ | ⟨c1, c2, e7, ee⟩ | ⟨c, e7, ee⟩ <;> rw [e7, ee]
  · rw [if_neg (by omega), if_neg (by omega)]; rfl
  · rw [if_neg (by omega), if_pos c1, be16_eq]; rfl
  · rw [if_pos c, be64_eq]; rfl

theorem lenRes_full (m : Bool) (len : Nat) (hl : len < 2 ^ 64) (t : Bytes) :
    lenRes (UInt8.ofNat (b2n m 128 + l7 len)) (beDigits (ext len) len ++ t) = some (len, t) := by
  rw [lenRes, (b1_dec m _ (l7_le len)).1]
  rcases lenClass len with ⟨c, e7, ee⟩ | ⟨c1, c2, e7, ee⟩ | ⟨c, e7, ee⟩ <;> rw [e7, ee]
  · rw [if_pos (by omega)]; rfl
  · exact readBE_beDigits 2 len (by omega) t
  · exact readBE_beDigits 8 len hl t

theorem lenRes_short (m : Bool) (len : Nat) (t : Bytes) (ht : t.length < ext len) :
    lenRes (UInt8.ofNat (b2n m 128 + l7 len)) t = none := by
  rw [lenRes, (b1_dec m _ (l7_le len)).1]
  rcases lenClass len with ⟨c, e7, ee⟩ | ⟨c1, c2, e7, ee⟩ | ⟨c, e7, ee⟩ <;> rw [ee] at ht <;> rw [e7]
  · cases ht
  · exact readBE_short ht
  · exact readBE_short ht

theorem keyRes_full (h : Header) (hwf : Header.WF h) (t : Bytes) :
    keyRes h.masked (keyPart h ++ t) = some (h.key, t) := by
  obtain ⟨_, _, hk1, hk0⟩ := hwf
  unfold keyRes keyPart
  cases hm : h.masked
  · simp [hk0 hm]
  · simp [List.take_of_length_le, hk1 hm]

theorem keyRes_short (h : Header) (t : Bytes) (ht : t.length < (keyPart h).length) :
    keyRes h.masked t = none := by
  revert ht
  unfold keyRes keyPart
  cases h.masked
  · simp
  · simp only [if_true, List.length_take]; intro ht; rw [if_neg (by omega)]

theorem decode_encode (h : Header) (hwf : Header.WF h) (rest : Bytes) :
    decodeHeader (encodeHeader h ++ rest) = .ok h rest := by
  rw [encodeHeader_eq]
  simp only [List.cons_append, List.append_assoc]
  rw [decodeHeader_cons _ _ _ _ _ _ _ hwf.1, lenRes_full _ _ (by have := hwf.2.1; omega)]
  simp only [(b1_dec _ _ (l7_le _)).2, Bool.decide_eq_true, keyRes_full h hwf, if_neg (Nat.not_le.2 hwf.2.1)]

theorem encode_length (h : Header) :
    (encodeHeader h).length =
      2 + (if h.len ≤ 125 then 0 else if h.len ≤ 65535 then 2 else 8) + (if h.masked then (h.key.take 4).length else 0) := by
  rw [encodeHeader_eq]
  simp only [List.length_cons, List.length_append, beDigits_length, keyPart, ext]
  cases h.masked <;> simp <;> omega

theorem encode_len7 (h : Header) :
    ∃ b0 b1 r, encodeHeader h = b0 :: b1 :: r ∧
      (b1.toNat % 128 = 127 ↔ 65535 < h.len) ∧ (b1.toNat % 128 = 126 ↔ (125 < h.len ∧ h.len ≤ 65535)) ∧
      (b1.toNat % 128 < 126 → b1.toNat % 128 = h.len) ∧ (b1.toNat ≥ 128 ↔ h.masked = true) := by
  obtain ⟨e, hm⟩ := b1_dec h.masked _ (l7_le h.len)
  refine ⟨_, _, _, encodeHeader_eq h, ?_⟩
  have := lenClass h.len
  rw [e]
  exact ⟨by omega, by omega, by omega, hm⟩

theorem encodeHeader_length_ge (h : Header) : 2 ≤ (encodeHeader h).length := by
  rw [encode_length]; omega

theorem encodeAll_nil : encodeAll [] = [] := rfl

theorem encodeAll_cons (f : Frame) (fs : List Frame) :
    encodeAll (f :: fs) = encodeHeader f.h ++ (f.payload ++ encodeAll fs) := by
  simp [encodeAll, encodeFrame]

theorem encodeAll_length_ge (fs : List Frame) : 2 * fs.length ≤ (encodeAll fs).length := by
  induction fs with
  | nil => simp [encodeAll]
  | cons f fs ih =>
    rw [encodeAll_cons]
    have := encodeHeader_length_ge f.h
    simp only [List.length_append, List.length_cons]
    omega

theorem parseAux_nil (fuel : Nat) (acc : List Frame) :
    parseFramesAux (fuel + 1) [] acc = (acc.reverse, .clean) := by
  simp [parseFramesAux]

theorem parseAux_ok {s rest : Bytes} {h : Header} (hd : decodeHeader s = .ok h rest) (fuel : Nat) (acc : List Frame) :
    parseFramesAux (fuel + 1) s acc =
      if rest.length ≥ h.len then parseFramesAux fuel (rest.drop h.len) (⟨h, rest.take h.len⟩ :: acc)
      else (acc.reverse, .shortPayload h rest) := by
  cases s with
  | nil => cases hd
  | cons b s => rw [parseFramesAux, hd]; rfl

theorem parseAux_needMore {s : Bytes} (hs : 0 < s.length) (hd : decodeHeader s = .needMore)
    (fuel : Nat) (acc : List Frame) : parseFramesAux (fuel + 1) s acc = (acc.reverse, .shortHeader) := by
  cases s with
  | nil => cases hs
  | cons b s => rw [parseFramesAux, hd]; rfl

theorem parseAux_append (fs : List Frame) (hwf : ∀ f ∈ fs, Frame.WF f) :
    ∀ (fuel : Nat) (t : Bytes) (acc : List Frame),
      parseFramesAux (fs.length + fuel) (encodeAll fs ++ t) acc = parseFramesAux fuel t (fs.reverse ++ acc) := by
  induction fs with
  | nil => intro fuel t acc; simp [encodeAll]
  | cons f fs ih =>
    intro fuel t acc
    obtain ⟨hh, hp⟩ := hwf f (by simp)
    rw [show (f :: fs).length + fuel = (fs.length + fuel) + 1 by simp; omega, encodeAll_cons,
      parseAux_ok (by rw [List.append_assoc, List.append_assoc]; exact decode_encode f.h hh _),
      if_pos (by simp; omega), ← hp, List.drop_left, List.take_left, ih fun g hg => hwf g (by simp [hg])]
    simp

theorem parse_append (pre : List Frame) (hpre : ∀ g ∈ pre, Frame.WF g) (t : Bytes) :
    ∃ k, parseFrames (encodeAll pre ++ t) = parseFramesAux (k + 1) t pre.reverse := by
  have hl := encodeAll_length_ge pre
  refine ⟨(encodeAll pre).length - pre.length + t.length, ?_⟩
  rw [parseFrames, show (encodeAll pre ++ t).length + 1
      = pre.length + ((encodeAll pre).length - pre.length + t.length + 1) by simp; omega,
    parseAux_append pre hpre, List.append_nil]

theorem parse_encodeAll (fs : List Frame) (hwf : ∀ f ∈ fs, Frame.WF f) :
    parseFrames (encodeAll fs) = (fs, .clean) := by
  obtain ⟨k, e⟩ := parse_append fs hwf []
  rw [← List.append_nil (encodeAll fs), e, parseAux_nil, List.reverse_reverse]

theorem decode_short (h : Header) (hwf : Header.WF h) (m : Nat) (hm : m < (encodeHeader h).length) :
    decodeHeader ((encodeHeader h).take m) = .needMore := by
  rw [encodeHeader_eq] at hm ⊢
  match m with
  | 0 => rfl
  | 1 => rfl
  | m + 2 =>
    simp only [List.length_cons, List.length_append] at hm
    rw [List.take_succ_cons, List.take_succ_cons, decodeHeader_cons _ _ _ _ _ _ _ hwf.1]
    rw [beDigits_length] at hm
    by_cases c : m < ext h.len
    · rw [lenRes_short _ _ _ (by rw [List.length_take, List.length_append, beDigits_length]; omega)]
    · rw [List.take_append, beDigits_length, List.take_of_length_le (by rw [beDigits_length]; omega), lenRes_full _ _ (by have := hwf.2.1; omega)]
      simp only [(b1_dec _ _ (l7_le _)).2, Bool.decide_eq_true, if_neg (Nat.not_le.2 hwf.2.1)]
      rw [keyRes_short _ _ (by rw [List.length_take]; omega)]

theorem parseAux_cut (f : Frame) (m : Nat) (hf : Frame.WF f) (hm0 : 0 < m)
    (hm : m < (encodeFrame f).length) (fuel : Nat) (acc : List Frame) :
    parseFramesAux (fuel + 1) ((encodeFrame f).take m) acc = (acc.reverse, cutTail f m) := by
  obtain ⟨hh, hp⟩ := hf
  have hge := encodeHeader_length_ge f.h
  unfold encodeFrame at hm ⊢
  rw [List.length_append] at hm
  unfold cutTail
  by_cases c : m < (encodeHeader f.h).length
  · rw [if_pos c, List.take_append_of_le_length (by omega),
      parseAux_needMore (by rw [List.length_take]; omega) (decode_short f.h hh m c)]
  · rw [if_neg c, List.take_append, List.take_of_length_le (by omega),
      parseAux_ok (decode_encode f.h hh _), if_neg (by rw [List.length_take]; omega)]

theorem parse_cut (pre : List Frame) (f : Frame) (m : Nat)
    (hpre : ∀ g ∈ pre, Frame.WF g) (hf : Frame.WF f) (hm0 : 0 < m) (hm : m < (encodeFrame f).length) :
    parseFrames (encodeAll pre ++ (encodeFrame f).take m) = (pre, cutTail f m) := by
  obtain ⟨k, e⟩ := parse_append pre hpre ((encodeFrame f).take m)
  rw [e, parseAux_cut f m hf hm0 hm, List.reverse_reverse]

-- declared under the namespace of WS/Proofs/ReaderInv.lean, whose name it keeps; it is proved here because this file holds
-- the lemmas about WS/Model/Frame.lean.
theorem _root_.WS.Proofs.ReaderInv.xorKeyFrom_length (key : Bytes) (i : Nat) (p : Bytes) :
    (xorKeyFrom key i p).length = p.length := by
  induction p generalizing i with
  | nil => rfl
  | cons x xs ih => simp [xorKeyFrom, ih]

theorem xorKeyFrom_take (key : Bytes) (i : Nat) (p : Bytes) (k : Nat) :
    xorKeyFrom key i (p.take k) = (xorKeyFrom key i p).take k := by
  induction p generalizing i k with
  | nil => simp [xorKeyFrom]
  | cons x xs ih =>
    cases k with
    | zero => simp [xorKeyFrom]
    | succ k => simp [xorKeyFrom, ih]

theorem xorKeyFrom_invol (key : Bytes) (i : Nat) (p : Bytes) :
    xorKeyFrom key i (xorKeyFrom key i p) = p := by
  induction p generalizing i with
  | nil => simp [xorKeyFrom]
  | cons x xs ih => simp [xorKeyFrom, ih, UInt8.xor_assoc]

theorem xorKey_length (key p : Bytes) : (xorKey key p).length = p.length :=
  ReaderInv.xorKeyFrom_length key 0 p

theorem xorKey_invol (key p : Bytes) : xorKey key (xorKey key p) = p := xorKeyFrom_invol key 0 p

end WS.Proofs.FrameCodec
