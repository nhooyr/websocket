import WS.Props.C19Defs
/-
  C19, the Lean JSON codec: each parser reads an encoded value back from the front of any input, given more fuel than the
  encoding is long (`parseJ_enc`).  An encoded number has no end mark of its own, hence the condition that what follows
  does not begin with a digit.
-/
namespace WS.Proofs.WsJson
open WS WS.Model WS.Model.WsJson WS.Props.C19

theorem hexV_hexDig : ∀ n, n < 16 → hexV (hexDig n) = some n := by decide

theorem char_eq_of_toNat {c : Char} {n : Nat} (h : c.toNat = n) : c = Char.ofNat n := by
  rw [← h, Char.ofNat_toNat]

theorem parseStrBody_esc (c : Char) (hc : c.toNat < 127) (fuel : Nat) (r acc : List Char) :
    parseStrBody (fuel + 1) (escChar c ++ r) acc = parseStrBody fuel r (c :: acc) := by
  unfold escChar
  by_cases h1 : c = '"'
  · subst h1; rfl
  by_cases h2 : c = '\\'
  · subst h2; rfl
  by_cases h3 : c = '\n'
  · subst h3; rfl
  by_cases h4 : c = '\r'
  · subst h4; rfl
  by_cases h5 : c = '\t'
  · subst h5; rfl
  simp only [beq_iff_eq, h1, h2, h3, h4, h5, if_false]
  split
  · have e0 : hexV '0' = some 0 := by decide
    simp [parseStrBody, hexV_hexDig (c.toNat / 16) (by omega), hexV_hexDig (c.toNat % 16) (by omega), e0]
    rw [show c.toNat / 16 * 16 + c.toNat % 16 = c.toNat by omega, Char.ofNat_toNat]
  · have h7 : ¬ c.toNat < 32 := fun h => ‹¬ _› (by simp [h])
    simp [parseStrBody, h1, h2, h7]

theorem ite_ne_nil {α} {p : Prop} [Decidable p] {a b : List α} (ha : a ≠ []) (hb : b ≠ []) :
    (if p then a else b) ≠ [] := by
  split <;> assumption

theorem escChar_ne_nil (c : Char) : escChar c ≠ [] := by
  unfold escChar
  repeat (first | apply ite_ne_nil | exact List.cons_ne_nil _ _)

theorem parseStrBody_enc (s : List Char) (hs : strOK s) :
    ∀ (fuel : Nat) (rest acc : List Char), (s.flatMap escChar).length < fuel →
      parseStrBody fuel (s.flatMap escChar ++ '"' :: rest) acc = some (acc.reverse ++ s, rest) := by
  induction s with
  | nil => intro fuel rest acc hf; cases fuel <;> simp [parseStrBody] at hf ⊢
  | cons c s ih =>
    intro fuel rest acc hf
    have := List.length_pos_iff.mpr (escChar_ne_nil c)
    rw [List.flatMap_cons, List.length_append] at hf
    obtain ⟨fuel, rfl⟩ : ∃ f, fuel = f + 1 := ⟨fuel - 1, by omega⟩
    rw [List.flatMap_cons, List.append_assoc, parseStrBody_esc c (hs c (by simp)),
      ih (fun d hd => hs d (by simp [hd])) fuel rest (c :: acc) (by omega)]
    simp

theorem encStr_eq (s : List Char) : encStr s = '"' :: (s.flatMap escChar ++ ['"']) := by
  simp [encStr]

/-- with the fuel `parseJ` and `parseObj` give it, the string parser reads an encoded string back. -/
theorem parseStr_full (s : List Char) (hs : strOK s) (rest : List Char) :
    parseStrBody ((s.flatMap escChar ++ '"' :: rest).length + 1) (s.flatMap escChar ++ '"' :: rest) [] =
      some (s, rest) := by
  rw [parseStrBody_enc s hs _ rest [] (by simp only [List.length_append, List.length_cons]; omega)]
  simp

def isDigit (c : Char) : Prop := '0' ≤ c ∧ c ≤ '9'

theorem digit_props : ∀ d, d < 10 →
    ('0' ≤ Char.ofNat (48 + d) ∧ Char.ofNat (48 + d) ≤ '9') ∧ (Char.ofNat (48 + d)).toNat - 48 = d := by
  decide

theorem parseDigits_stop (rest : List Char) (hr : ∀ c ∈ rest.head?, ¬ ('0' ≤ c ∧ c ≤ '9')) (a k : Nat) :
    parseDigits rest a k = (a, k, rest) := by
  cases rest with
  | nil => simp [parseDigits]
  | cons c cs =>
    have := hr c (by simp)
    simp [parseDigits, this]

theorem parseDigits_natDigits : ∀ (f n : Nat), n < f → ∀ (rest : List Char) (k : Nat),
    parseDigits (natDigits f n ++ rest) 0 k = parseDigits rest n (k + (natDigits f n).length) := by
  intro f
  induction f with
  | zero => intro n h; omega
  | succ f ih =>
    intro n hn rest k
    unfold natDigits
    by_cases h10 : n < 10
    · have hd := digit_props n h10
      simp [h10, parseDigits, hd.1, hd.2]
    · have hd := digit_props (n % 10) (Nat.mod_lt _ (by omega))
      have hlt : n / 10 < f := by omega
      simp only [h10, if_false, List.append_assoc, List.singleton_append]
      rw [ih (n / 10) hlt]
      simp only [parseDigits, hd.1, hd.2, and_self, if_true, List.length_append, List.length_cons,
        List.length_nil]
      have : n / 10 * 10 + n % 10 = n := by omega
      rw [this]
      rfl

theorem natDigits_head : ∀ (f n : Nat), n < f →
    ∃ c cs, ('0' ≤ c ∧ c ≤ '9') ∧ natDigits f n = c :: cs := by
  intro f
  induction f with
  | zero => intro n h; omega
  | succ f ih =>
    intro n hn
    unfold natDigits
    by_cases h10 : n < 10
    · exact ⟨_, [], (digit_props n h10).1, by simp [h10]⟩
    · obtain ⟨c, cs, hc, he⟩ := ih (n / 10) (by omega)
      exact ⟨c, cs ++ [Char.ofNat (48 + n % 10)], hc, by simp [h10, he]⟩

theorem skipWs_cons (c : Char) (cs : List Char)
    (h : c ≠ ' ' ∧ c ≠ '\n' ∧ c ≠ '\t' ∧ c ≠ '\r') : skipWs (c :: cs) = c :: cs := by
  simp [skipWs, h.1, h.2.1, h.2.2.1, h.2.2.2]

theorem parseJ_digit {c : Char} (hc : '0' ≤ c ∧ c ≤ '9') (f : Nat) (r : List Char) :
    parseJ (f + 1) (c :: r) = some (.num (parseDigits (c :: r) 0 0).1, (parseDigits (c :: r) 0 0).2.2) := by
  -- a digit is none of the characters the parser gives a meaning of their own
  have h : ∀ d, ¬ ('0' ≤ d ∧ d ≤ '9') → c ≠ d := fun d hd e => hd (e ▸ hc)
  rw [parseJ, skipWs_cons _ _ ⟨h _ (by decide), h _ (by decide), h _ (by decide), h _ (by decide)⟩]
  simp [h 'n' (by decide), h 't' (by decide), h 'f' (by decide), h '"' (by decide), h '[' (by decide),
    h '{' (by decide), h '-' (by decide), hc]

theorem parseJ_int (n : Int) (rest : List Char) (hr : ∀ c ∈ rest.head?, ¬ ('0' ≤ c ∧ c ≤ '9')) (fuel : Nat) :
    parseJ (fuel + 1) (encInt n ++ rest) = some (.num n, rest) := by
  have hd := parseDigits_natDigits _ _ (Nat.lt_succ_self n.natAbs) rest 0
  rw [parseDigits_stop rest hr] at hd
  obtain ⟨c, cs, hc, he⟩ := natDigits_head (n.natAbs + 1) n.natAbs (Nat.lt_succ_self _)
  unfold encInt
  split
  · rw [List.cons_append, parseJ, skipWs_cons _ _ (by decide)]
    simp only [hd]
    simp [he]; omega
  · rw [he] at hd ⊢
    rw [List.cons_append, parseJ_digit hc, ← List.cons_append, hd]
    simp; omega

/-! One step of each parser on input that begins with a known token. Where the list parsers succeed the
input did not begin with a closing bracket (on which they fail), so `parseJ` did not take its empty-list arm:
this spares an analysis of the characters an encoded value can begin with. -/

theorem parseJ_str (f : Nat) (r : List Char) :
    parseJ (f + 1) ('"' :: r) = (parseStrBody (r.length + 1) r []).map fun p => (.str p.1, p.2) := rfl

theorem parseArr_closing {r r2 : List Char} (h : skipWs r = ']' :: r2) : ∀ f, parseArr f r = none
  | 0 => rfl
  | 1 => rfl
  | f + 2 => by simp [parseArr, parseJ, h]

theorem parseObj_closing {r r2 : List Char} (h : skipWs r = '}' :: r2) : ∀ f, parseObj f r = none
  | 0 => rfl
  | f + 1 => by simp [parseObj, h]

theorem parseJ_arr {f : Nat} {r : List Char} {p : List J × List Char} (h : parseArr f r = some p) :
    parseJ (f + 1) ('[' :: r) = some (.arr p.1, p.2) := by
  rw [parseJ, skipWs_cons _ _ (by decide)]
  simp only []
  split
  · next hs => rw [parseArr_closing hs] at h; cases h
  · rw [h]; rfl

theorem parseJ_obj {f : Nat} {r : List Char} {p : List (List Char × J) × List Char} (h : parseObj f r = some p) :
    parseJ (f + 1) ('{' :: r) = some (.obj p.1, p.2) := by
  rw [parseJ, skipWs_cons _ _ (by decide)]
  simp only []
  split
  · next hs => rw [parseObj_closing hs] at h; cases h
  · rw [h]; rfl

theorem parseArr_last {f : Nat} {s r : List Char} {v : J} (h : parseJ f s = some (v, ']' :: r)) :
    parseArr (f + 1) s = some ([v], r) := by
  rw [parseArr, h]; rfl

theorem parseArr_more {f : Nat} {s r : List Char} {v : J} (h : parseJ f s = some (v, ',' :: r)) :
    parseArr (f + 1) s = (parseArr f r).map fun p => (v :: p.1, p.2) := by
  rw [parseArr, h]; rfl

theorem parseObj_last {f : Nat} {r r2 t k : List Char} {v : J}
    (hk : parseStrBody (r.length + 1) r [] = some (k, ':' :: r2)) (hv : parseJ f r2 = some (v, '}' :: t)) :
    parseObj (f + 1) ('"' :: r) = some ([(k, v)], t) := by
  simp [parseObj, skipWs, hk, hv]

theorem parseObj_more {f : Nat} {r r2 t k : List Char} {v : J}
    (hk : parseStrBody (r.length + 1) r [] = some (k, ':' :: r2)) (hv : parseJ f r2 = some (v, ',' :: t)) :
    parseObj (f + 1) ('"' :: r) = (parseObj f t).map fun p => ((k, v) :: p.1, p.2) := by
  simp [parseObj, skipWs, hk, hv]

theorem notDigit_head (c : Char) (rest : List Char) (hc : ¬ ('0' ≤ c ∧ c ≤ '9')) :
    ∀ d ∈ (c :: rest).head?, ¬ ('0' ≤ d ∧ d ≤ '9') := by
  simpa using hc

mutual
theorem parseJ_enc : ∀ (v : J), JOK v → ∀ (fuel : Nat) (rest : List Char), (encJ v).length < fuel →
    (∀ c ∈ rest.head?, ¬ ('0' ≤ c ∧ c ≤ '9')) → parseJ fuel (encJ v ++ rest) = some (v, rest)
  | _, _, 0, _, hf, _ => absurd hf (Nat.not_lt_zero _)
  | .null, _, _ + 1, _, _, _ | .bool true, _, _ + 1, _, _, _ | .bool false, _, _ + 1, _, _, _
  | .arr [], _, _ + 1, _, _, _ | .obj [], _, _ + 1, _, _, _ => rfl
  | .num n, _, f + 1, rest, _, hr => parseJ_int n rest hr f
  | .str s, h, f + 1, rest, _, _ => by
    rw [encJ, encStr_eq, List.cons_append, List.append_assoc, parseJ_str, List.singleton_append,
      parseStr_full s h rest]
    rfl
  | .arr (v :: l), h, f + 1, rest, hf, _ => by
    rw [encJ, List.append_assoc, List.append_assoc]
    exact parseJ_arr (parseArr_enc (v :: l) (by simp) h f rest (by simp [encJ] at hf; omega))
  | .obj (kv :: l), h, f + 1, rest, hf, _ => by
    rw [encJ, List.append_assoc, List.append_assoc]
    exact parseJ_obj (parseObj_enc (kv :: l) (by simp) h f rest (by simp [encJ] at hf; omega))
theorem parseArr_enc : ∀ (l : List J), l ≠ [] → JsOK l → ∀ (fuel : Nat) (rest : List Char),
    (encArr l).length + 2 ≤ fuel → parseArr fuel (encArr l ++ ']' :: rest) = some (l, rest)
  | [], hne, _, _, _, _ => absurd rfl hne
  | _ :: _, _, _, 0, _, hf => by omega
  | [v], _, h, f + 1, rest, hf =>
    parseArr_last (parseJ_enc v h.1 f (']' :: rest) (by simp [encArr] at hf; omega) (notDigit_head _ _ (by decide)))
  | v :: w :: l, _, h, f + 1, rest, hf => by
    have e : encArr (v :: w :: l) = encJ v ++ ',' :: encArr (w :: l) := by simp [encArr]
    rw [e] at hf ⊢
    simp only [List.length_append, List.length_cons] at hf
    rw [List.append_assoc, List.cons_append, parseArr_more (parseJ_enc v h.1 f _ (by omega) (notDigit_head _ _ (by decide))),
      parseArr_enc (w :: l) (by simp) h.2 f rest (by omega)]
    rfl
theorem parseObj_enc : ∀ (l : List (List Char × J)), l ≠ [] → KVsOK l → ∀ (fuel : Nat) (rest : List Char),
    (encObj l).length + 2 ≤ fuel → parseObj fuel (encObj l ++ '}' :: rest) = some (l, rest)
  | [], hne, _, _, _, _ => absurd rfl hne
  | _ :: _, _, _, 0, _, hf => by omega
  | [(k, v)], _, h, f + 1, rest, hf => by
    have e : encObj [(k, v)] ++ '}' :: rest = '"' :: (k.flatMap escChar ++ '"' :: ':' :: (encJ v ++ '}' :: rest)) := by
      simp [encObj, encStr_eq]
    rw [e]
    exact parseObj_last (parseStr_full k h.1 _)
      (parseJ_enc v h.2.1 f _ (by simp [encObj, encStr_eq] at hf; omega) (notDigit_head _ _ (by decide)))
  | (k, v) :: w :: l, _, h, f + 1, rest, hf => by
    have e : encObj ((k, v) :: w :: l) ++ '}' :: rest =
        '"' :: (k.flatMap escChar ++ '"' :: ':' :: (encJ v ++ ',' :: (encObj (w :: l) ++ '}' :: rest))) := by
      simp [encObj, encStr_eq]
    have hf' : (encJ v).length + (encObj (w :: l)).length + 3 ≤ f := by simp [encObj, encStr_eq] at hf; omega
    rw [e, parseObj_more (parseStr_full k h.1 _) (parseJ_enc v h.2.1 f _ (by omega) (notDigit_head _ _ (by decide))),
      parseObj_enc (w :: l) (by simp) h.2.2 f rest (by omega)]
    rfl
end

theorem json_roundtrip (v : J) (hv : JOK v) : decJ (encJ v) = some v := by
  have h := parseJ_enc v hv ((encJ v).length + 1) [] (Nat.lt_succ_self _) (by simp)
  rw [List.append_nil] at h
  simp [decJ, h, skipWs]

end WS.Proofs.WsJson
