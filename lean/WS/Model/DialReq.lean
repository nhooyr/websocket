import WS.Model.Handshake
/-
  Model of the request Dial sends (dial.go handshakeRequest): the caller's headers with the upgrade
  headers set on top (http.Header.Set replaces every value under the canonical key).
-/
namespace WS.Model
open WS

/-- http.Header.Set on a canonical key. -/
def Hdr.set (h : Hdr) (key : Str) (v : Str) : Hdr :=
  h.filter (fun kv => kv.1 != key) ++ [(key, [v])]

/-- strings.Join(l, ",") -/
def joinComma : List Str → Str
  | [] => []
  | [x] => x
  | x :: rest => x ++ [','] ++ joinComma rest

/-- handshakeRequest. `caller` = DialOptions.HTTPHeader (a clone: the caller's map is not touched),
`host` = DialOptions.Host or the URL's host. -/
def dialRequest (caller : Hdr) (host : Str) (subprotos : List Str) (copts : Option Copts) (key : Str) : Req :=
  let h := caller.set (s "Connection") (s "Upgrade")
  let h := h.set (s "Upgrade") (s "websocket")
  let h := h.set (s "Sec-Websocket-Version") (s "13")
  let h := h.set (s "Sec-Websocket-Key") key
  let h := if subprotos.isEmpty then h else h.set (s "Sec-Websocket-Protocol") (joinComma subprotos)
  let h := match copts with
    | none => h
    | some c => h.set (s "Sec-Websocket-Extensions") (coptsString c)
  { method := s "GET", protoMajor := 1, protoMinor := 1, host := host, hdr := h }

end WS.Model
