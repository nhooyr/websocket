import WS.Model.Close
/-
  Frame-level model of the write side (write.go: Write, Writer, msgWriter.Write/Close,
  writeControl, writeFrame, writeFramePayload) for one goroutine issuing API calls.

  Everything that the code does not determine is an input: the mask keys drawn from
  crypto/rand (one per frame, in order) and, on the compressed path, the chunks that
  compress/flate hands to the frame writer (after trimLastFourBytesWriter withheld the tail).
-/
namespace WS.Model
open WS

structure WCfg where
  client : Bool          -- the writing endpoint is a client (masks its frames)
  flate : Bool           -- permessage-deflate negotiated
  takeover : Bool        -- writer-side context takeover (msgWriter.flateContextTakeover)
  threshold : Nat        -- CompressionThreshold option (0 = default)
  deriving Repr

/-- newConn: the default threshold is 128 with context takeover and 512 without. -/
def effThreshold (cfg : WCfg) : Nat :=
  if cfg.flate && cfg.threshold == 0 then (if cfg.takeover then 128 else 512) else cfg.threshold

inductive WOp
  /-- `Conn.Write(typ, p)` (`viaWriter = false`, one chunk) or `Conn.Writer(typ)`, one
  `Write` per chunk, `Close`. `obs` = compressed chunks handed to the frame writer (if the
  message is compressed). -/
  | msg (typ : Nat) (viaWriter : Bool) (chunks : List Bytes) (obs : List Bytes)
  | ping (payload : Bytes)
  | pong (payload : Bytes)
  | close (code : Int) (reason : Bytes)
  deriving Repr

/-- is the message compressed?  Decided once, by the first chunk (msgWriter.Write). -/
def compresses (cfg : WCfg) (chunks : List Bytes) : Bool :=
  cfg.flate && (match chunks with
    | [] => false
    | c :: _ => decide (c.length ≥ effThreshold cfg))

def mkHeader (cfg : WCfg) (fin rsv1 : Bool) (op : Nat) (len : Nat) (key : Bytes) : Header :=
  { fin := fin, rsv1 := rsv1, rsv2 := false, rsv3 := false, opcode := op, len := len,
    masked := cfg.client, key := if cfg.client then key.take 4 else [] }

/-- writeFrame: header plus payload, masked inside the write buffer when the endpoint is a client. -/
def mkFrame (cfg : WCfg) (fin rsv1 : Bool) (op : Nat) (p : Bytes) (key : Bytes) : Frame :=
  let h := mkHeader cfg fin rsv1 op p.length key
  { h := h, payload := if cfg.client then xorKey h.key p else p }

/-- data frames of one message: one non-final frame per payload in `parts`, then the empty final
frame written by `msgWriter.Close`. `first` tells whether the next frame is the first of the message. -/
def dataFrames (cfg : WCfg) (typ : Nat) (flate : Bool) : List Bytes → Bool → List Bytes → List Frame × List Bytes
  | [], first, keys =>
    ([mkFrame cfg true (flate && first) (if first then typ else opCont) [] (keys.headD [])], keys.tail)
  | p :: ps, first, keys =>
    let f := mkFrame cfg false (flate && first) (if first then typ else opCont) p (keys.headD [])
    let r := dataFrames cfg typ flate ps false keys.tail
    (f :: r.1, r.2)

/-- frames of one API call; `keys` is the stream of 4-byte mask keys (one consumed per frame).
A Close that is rejected yields `([], keys)`: nothing is written and no key is consumed. -/
def opFrames (cfg : WCfg) (op : WOp) (keys : List Bytes) : List Frame × List Bytes :=
  match op with
  | .msg typ viaWriter chunks obs =>
    if !cfg.flate && !viaWriter then
      -- Conn.Write without compression: a single final frame
      ([mkFrame cfg true false typ (chunks.headD []) (keys.headD [])], keys.tail)
    else if compresses cfg chunks then dataFrames cfg typ true obs true keys
    else dataFrames cfg typ false chunks true keys
  | .ping p => ([mkFrame cfg true false opPing p (keys.headD [])], keys.tail)
  | .pong p => ([mkFrame cfg true false opPong p (keys.headD [])], keys.tail)
  | .close code reason =>
    match writeClosePayload code reason with
    | some p => ([mkFrame cfg true false opClose p (keys.headD [])], keys.tail)
    | none => ([], keys)

def runWriter (cfg : WCfg) : List WOp → List Bytes → List Frame
  | [], _ => []
  | op :: ops, keys =>
    let r := opFrames cfg op keys
    r.1 ++ runWriter cfg ops r.2

def writerBytes (cfg : WCfg) (ops : List WOp) (keys : List Bytes) : Bytes :=
  ((runWriter cfg ops keys).map encodeFrame).flatten

/-- trimLastFourBytesWriter after a sequence of writes: (bytes passed on, tail withheld). -/
def trimLastFour (chunks : List Bytes) : Bytes × Bytes :=
  let all := chunks.flatten
  (all.take (all.length - 4), all.drop (all.length - 4))

end WS.Model
