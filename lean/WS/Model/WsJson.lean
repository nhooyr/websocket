import WS.Model.Writer
import WS.Model.Reader
/-
  wsjson glue (wsjson/wsjson.go) over the connection models, parametric in the JSON codec, and a
  JSON codec in Lean for the fragment: null, booleans, integers, strings, arrays, objects
  (Go's encoding/json output format incl. its escaping rules on the ASCII domain).
-/
namespace WS.Model.WsJson
open WS WS.Model

structure Codec (V : Type) where
  enc : V → Bytes                 -- json.Encoder.Encode (includes the trailing newline)
  dec : Bytes → Option V          -- json.Unmarshal into the target

/-- wsjson.Write: one `Conn.Write` of a text message holding the encoding. -/
def writeOp {V : Type} (c : Codec V) (v : V) : WOp := .msg opText false [c.enc v] []

inductive ReadRes (V : Type)
  | ok (v : V)
  | invalid          -- json.Unmarshal failed: error returned, Close frame with status 1007 sent
  | failed           -- the reader failed

/-- wsjson.Read on what the connection's reader delivers next: exactly one message is consumed. -/
def readOne {V : Type} (c : Codec V) : List Ev → ReadRes V × Option Int × List Ev
  | .msg _ data :: rest =>
    (match c.dec data with
     | some v => (.ok v, none, rest)
     | none => (.invalid, some 1007, rest))
  | .reply _ _ :: rest => readOne c rest          -- frames written back are not read results
  | _ => (.failed, none, [])

/-! ### a JSON codec -/

inductive J
  | null
  | bool (b : Bool)
  | num (n : Int)
  | str (s : List Char)
  | arr (l : List J)
  | obj (kvs : List (List Char × J))
  deriving Repr, Inhabited

def hexDig (n : Nat) : Char := if n < 10 then Char.ofNat (48 + n) else Char.ofNat (87 + n)

/-- Go's string escaping (HTML-safe mode, as json.Encoder uses by default), ASCII domain. -/
def escChar (c : Char) : List Char :=
  if c == '"' then ['\\', '"']
  else if c == '\\' then ['\\', '\\']
  else if c == '\n' then ['\\', 'n']
  else if c == '\r' then ['\\', 'r']
  else if c == '\t' then ['\\', 't']
  else if c.toNat < 32 || c == '<' || c == '>' || c == '&' then
    ['\\', 'u', '0', '0', hexDig (c.toNat / 16), hexDig (c.toNat % 16)]
  else [c]

def encStr (s : List Char) : List Char := ['"'] ++ s.flatMap escChar ++ ['"']

def natDigits : Nat → Nat → List Char
  | 0, _ => []
  | fuel + 1, n => if n < 10 then [Char.ofNat (48 + n)] else natDigits fuel (n / 10) ++ [Char.ofNat (48 + n % 10)]

def encInt (n : Int) : List Char :=
  if n < 0 then '-' :: natDigits (n.natAbs + 1) n.natAbs else natDigits (n.natAbs + 1) n.natAbs

mutual
def encJ : J → List Char
  | .null => "null".toList
  | .bool true => "true".toList
  | .bool false => "false".toList
  | .num n => encInt n
  | .str s => encStr s
  | .arr l => ['['] ++ encArr l ++ [']']
  | .obj kvs => ['{'] ++ encObj kvs ++ ['}']
def encArr : List J → List Char
  | [] => []
  | [v] => encJ v
  | v :: rest => encJ v ++ [','] ++ encArr rest
def encObj : List (List Char × J) → List Char
  | [] => []
  | [(k, v)] => encStr k ++ [':'] ++ encJ v
  | (k, v) :: rest => encStr k ++ [':'] ++ encJ v ++ [','] ++ encObj rest
end

/-! parser (recursive descent with fuel) -/

def skipWs : List Char → List Char
  | c :: cs => if c == ' ' || c == '\n' || c == '\t' || c == '\r' then skipWs cs else c :: cs
  | [] => []

def hexV (c : Char) : Option Nat :=
  if '0' ≤ c ∧ c ≤ '9' then some (c.toNat - 48)
  else if 'a' ≤ c ∧ c ≤ 'f' then some (c.toNat - 87)
  else if 'A' ≤ c ∧ c ≤ 'F' then some (c.toNat - 55)
  else none

/-- after the opening quote: the string and the rest after the closing quote. -/
def parseStrBody : Nat → List Char → List Char → Option (List Char × List Char)
  | 0, _, _ => none
  | _ + 1, [], _ => none
  | fuel + 1, c :: cs, acc =>
    if c == '"' then some (acc.reverse, cs)
    else if c == '\\' then
      match cs with
      | '"' :: r => parseStrBody fuel r ('"' :: acc)
      | '\\' :: r => parseStrBody fuel r ('\\' :: acc)
      | '/' :: r => parseStrBody fuel r ('/' :: acc)
      | 'n' :: r => parseStrBody fuel r ('\n' :: acc)
      | 'r' :: r => parseStrBody fuel r ('\r' :: acc)
      | 't' :: r => parseStrBody fuel r ('\t' :: acc)
      | 'b' :: r => parseStrBody fuel r (Char.ofNat 8 :: acc)
      | 'f' :: r => parseStrBody fuel r (Char.ofNat 12 :: acc)
      | 'u' :: a :: b :: c2 :: d :: r =>
        (match hexV a, hexV b, hexV c2, hexV d with
         | some x, some y, some z, some w => parseStrBody fuel r (Char.ofNat (((x * 16 + y) * 16 + z) * 16 + w) :: acc)
         | _, _, _, _ => none)
      | _ => none
    else if c.toNat < 32 then none
    else parseStrBody fuel cs (c :: acc)

def parseDigits : List Char → Nat → Nat → Nat × Nat × List Char   -- value, count, rest
  | c :: cs, acc, n => if '0' ≤ c ∧ c ≤ '9' then parseDigits cs (acc * 10 + (c.toNat - 48)) (n + 1) else (acc, n, c :: cs)
  | [], acc, n => (acc, n, [])

mutual
def parseJ : Nat → List Char → Option (J × List Char)
  | 0, _ => none
  | fuel + 1, s =>
    match skipWs s with
    | 'n' :: 'u' :: 'l' :: 'l' :: r => some (.null, r)
    | 't' :: 'r' :: 'u' :: 'e' :: r => some (.bool true, r)
    | 'f' :: 'a' :: 'l' :: 's' :: 'e' :: r => some (.bool false, r)
    | '"' :: r => (parseStrBody (r.length + 1) r []).map (fun p => (.str p.1, p.2))
    | '[' :: r =>
      (match skipWs r with
       | ']' :: r2 => some (.arr [], r2)
       | _ => (parseArr fuel r).map (fun p => (.arr p.1, p.2)))
    | '{' :: r =>
      (match skipWs r with
       | '}' :: r2 => some (.obj [], r2)
       | _ => (parseObj fuel r).map (fun p => (.obj p.1, p.2)))
    | '-' :: r =>
      let (v, n, r2) := parseDigits r 0 0
      if n == 0 then none else some (.num (-(v : Int)), r2)
    | c :: r =>
      if '0' ≤ c ∧ c ≤ '9' then
        let (v, _, r2) := parseDigits (c :: r) 0 0
        some (.num v, r2)
      else none
    | [] => none
def parseArr : Nat → List Char → Option (List J × List Char)
  | 0, _ => none
  | fuel + 1, s =>
    match parseJ fuel s with
    | none => none
    | some (v, r) =>
      match skipWs r with
      | ',' :: r2 => (parseArr fuel r2).map (fun p => (v :: p.1, p.2))
      | ']' :: r2 => some ([v], r2)
      | _ => none
def parseObj : Nat → List Char → Option (List (List Char × J) × List Char)
  | 0, _ => none
  | fuel + 1, s =>
    match skipWs s with
    | '"' :: r =>
      match parseStrBody (r.length + 1) r [] with
      | none => none
      | some (k, r1) =>
        match skipWs r1 with
        | ':' :: r2 =>
          match parseJ fuel r2 with
          | none => none
          | some (v, r3) =>
            match skipWs r3 with
            | ',' :: r4 => (parseObj fuel r4).map (fun p => ((k, v) :: p.1, p.2))
            | '}' :: r4 => some ([(k, v)], r4)
            | _ => none
        | _ => none
    | _ => none
end

/-- json.Unmarshal: one value, then only white space. -/
def decJ (s : List Char) : Option J :=
  match parseJ (s.length + 1) s with
  | some (v, r) => if (skipWs r).isEmpty then some v else none
  | none => none

end WS.Model.WsJson
