import WS.Basic
/-
  Byte-level framing (RFC 6455 §5.2) as implemented by frame.go:
  `encodeHeader` mirrors writeFrameHeader, `decodeHeader` mirrors readFrameHeader.
  The 32-bit mask key is kept as its four wire bytes (little-endian image of the uint32).
-/
namespace WS.Model
open WS

structure Header where
  fin : Bool
  rsv1 : Bool
  rsv2 : Bool
  rsv3 : Bool
  opcode : Nat            -- 0..15
  len : Nat               -- payloadLength (int64 in Go; the model carries values < 2^63)
  masked : Bool
  key : Bytes             -- 4 wire bytes when masked, [] otherwise
  deriving Repr, DecidableEq, Inhabited

def opCont : Nat := 0
def opText : Nat := 1
def opBinary : Nat := 2
def opClose : Nat := 8
def opPing : Nat := 9
def opPong : Nat := 10

def b2n (b : Bool) (n : Nat) : Nat := if b then n else 0

def be16 (n : Nat) : Bytes := [UInt8.ofNat (n / 256), UInt8.ofNat (n % 256)]

def be64 (n : Nat) : Bytes :=
  [UInt8.ofNat (n / 2^56 % 256), UInt8.ofNat (n / 2^48 % 256), UInt8.ofNat (n / 2^40 % 256),
   UInt8.ofNat (n / 2^32 % 256), UInt8.ofNat (n / 2^24 % 256), UInt8.ofNat (n / 2^16 % 256),
   UInt8.ofNat (n / 2^8 % 256), UInt8.ofNat (n % 256)]

/-- writeFrameHeader. -/
def encodeHeader (h : Header) : Bytes :=
  let b0 := UInt8.ofNat (b2n h.fin 128 + b2n h.rsv1 64 + b2n h.rsv2 32 + b2n h.rsv3 16 + h.opcode % 16)
  let m := b2n h.masked 128
  let lenPart : Bytes :=
    if h.len > 65535 then UInt8.ofNat (m + 127) :: be64 h.len
    else if h.len > 125 then UInt8.ofNat (m + 126) :: be16 h.len
    else [UInt8.ofNat (m + h.len)]
  b0 :: lenPart ++ (if h.masked then h.key.take 4 else [])

inductive HdrRes
  | ok (h : Header) (rest : Bytes)
  | needMore                      -- the stream ends inside the header
  | negative                      -- 64-bit length with the top bit set
  deriving Repr, DecidableEq

def fromBE : Bytes → Nat → Nat
  | [], acc => acc
  | b :: bs, acc => fromBE bs (acc * 256 + b.toNat)

/-- readFrameHeader. -/
def decodeHeader (s : Bytes) : HdrRes :=
  match s with
  | b0 :: b1 :: r =>
    let n0 := b0.toNat
    let n1 := b1.toNat
    let masked := n1 ≥ 128
    let l7 := n1 % 128
    let lenRes : Option (Nat × Bytes) :=
      if l7 < 126 then some (l7, r)
      else if l7 = 126 then
        (if r.length ≥ 2 then some (fromBE (r.take 2) 0, r.drop 2) else none)
      else
        (if r.length ≥ 8 then some (fromBE (r.take 8) 0, r.drop 8) else none)
    match lenRes with
    | none => .needMore
    | some (len, r2) =>
      if len ≥ 2^63 then .negative
      else
        let mk (key : Bytes) (rest : Bytes) : HdrRes :=
          .ok { fin := n0 ≥ 128, rsv1 := n0 / 64 % 2 = 1, rsv2 := n0 / 32 % 2 = 1, rsv3 := n0 / 16 % 2 = 1,
                opcode := n0 % 16, len := len, masked := masked, key := key } rest
        if masked then
          (if r2.length ≥ 4 then mk (r2.take 4) (r2.drop 4) else .needMore)
        else mk [] r2
  | _ => .needMore

/-- frame-level masking with the key as four wire bytes: byte i XOR key byte (i mod 4). -/
def xorKeyFrom (key : Bytes) : Nat → Bytes → Bytes
  | _, [] => []
  | i, x :: xs => (x ^^^ key.getD (i % 4) 0) :: xorKeyFrom key (i + 1) xs

def xorKey (key : Bytes) (b : Bytes) : Bytes := xorKeyFrom key 0 b

/-- a frame as it appears on the wire (payload still masked if `h.masked`). -/
structure Frame where
  h : Header
  payload : Bytes
  deriving Repr, DecidableEq, Inhabited

/-- the application payload of a frame. -/
def Frame.data (f : Frame) : Bytes := if f.h.masked then xorKey f.h.key f.payload else f.payload

def encodeFrame (f : Frame) : Bytes := encodeHeader f.h ++ f.payload

/-- what is left of the stream after the last complete frame. -/
inductive Tail
  | clean                                   -- the stream ends exactly at a frame boundary
  | shortHeader                             -- it ends inside a frame header
  | negative                                -- a header declares a length with the top bit set
  | shortPayload (h : Header) (avail : Bytes)  -- it ends inside the payload of frame `h`
  deriving Repr, DecidableEq

/-- split a byte stream into complete frames and a tail.  Fuel: every frame has ≥ 2 bytes. -/
def parseFramesAux : Nat → Bytes → List Frame → List Frame × Tail
  | 0, _, acc => (acc.reverse, .shortHeader)
  | fuel + 1, s, acc =>
    if s.isEmpty then (acc.reverse, .clean)
    else
      match decodeHeader s with
      | .needMore => (acc.reverse, .shortHeader)
      | .negative => (acc.reverse, .negative)
      | .ok h rest =>
        if rest.length ≥ h.len then
          parseFramesAux fuel (rest.drop h.len) ({ h := h, payload := rest.take h.len } :: acc)
        else (acc.reverse, .shortPayload h rest)

def parseFrames (s : Bytes) : List Frame × Tail := parseFramesAux (s.length + 1) s []

end WS.Model
