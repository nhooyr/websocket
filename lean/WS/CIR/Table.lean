/-
  Lists as balanced trees, for kernel evaluation.  The certificate checkers index the program and
  its annotations by node (`List.getD`), which costs the kernel a walk down the list per lookup and
  makes a sweep over all nodes quadratic.  `getD_eq_get` replaces such a lookup by a descent in a
  tree the kernel builds once (its `whnf` cache keeps the closed term `Table.ofList l` evaluated).
-/
namespace WS.CIR

/-- an in-order search tree over the positions of a list; `k` is the size of the left subtree. -/
inductive Table (α : Type) where
  | leaf : Table α
  | node (l : Table α) (k : Nat) (v : α) (r : Table α) : Table α

namespace Table
variable {α : Type}

/-- lookup by position.  Written with the recursor, which the kernel unfolds in one step: the compiled form of the
same function by pattern matching (a matcher inside `brecOn`) costs it two and a half times as much per level. -/
noncomputable def get (t : Table α) : Nat → α → α :=
  Table.rec (fun _ d => d)
    (fun _ k v _ left right n d => bif n.blt k then left n d else bif n.beq k then v else right (n - k - 1) d) t

theorem get_leaf (n : Nat) (d : α) : (leaf : Table α).get n d = d := rfl

theorem get_node (l r : Table α) (k : Nat) (v : α) (n : Nat) (d : α) :
    (node l k v r).get n d = bif n.blt k then l.get n d else bif n.beq k then v else r.get (n - k - 1) d := rfl

/-- the first `2 ^ depth - 1` elements as a tree whose left subtrees are full, and the rest. -/
def build : Nat → List α → Table α × List α
  | 0, l => (leaf, l)
  | d + 1, l =>
    match build d l with
    | (L, []) => (L, [])
    | (L, x :: l') =>
      match build d l' with
      | (R, l'') => (node L (2 ^ d - 1) x R, l'')

def ofList (l : List α) : Table α := (build (l.length.log2 + 1) l).1

def toList : Table α → List α
  | leaf => []
  | node l _ v r => l.toList ++ v :: r.toList

def WF : Table α → Prop
  | leaf => True
  | node l k _ r => l.WF ∧ r.WF ∧ k = l.toList.length

theorem get_toList : ∀ (t : Table α), t.WF → ∀ n d, t.get n d = t.toList[n]?.getD d
  | leaf, _, n, d => by simp [get_leaf, toList]
  | node l k v r, ⟨hl, hr, hk⟩, n, d => by
    subst hk
    simp only [get_node, toList, Nat.blt_eq, Nat.beq_eq, cond_eq_ite]
    split
    · rw [get_toList l hl, List.getElem?_append_left ‹_›]
    · rw [List.getElem?_append_right (by omega)]
      split
      · simp [*]
      · rw [get_toList r hr]
        obtain ⟨m, hm⟩ : ∃ m, n - l.toList.length = m + 1 := ⟨n - l.toList.length - 1, by omega⟩
        rw [hm, List.getElem?_cons_succ]; congr 2

theorem build_spec : ∀ (d : Nat) (l : List α),
    (build d l).1.WF ∧ (build d l).1.toList ++ (build d l).2 = l ∧
      ((build d l).2 ≠ [] → (build d l).1.toList.length = 2 ^ d - 1)
  | 0, l => by simp [build, WF, toList]
  | d + 1, l => by
    obtain ⟨wf1, eq1, full1⟩ := build_spec d l
    unfold build
    split
    · rename_i L h; rw [h] at wf1 eq1; exact ⟨wf1, eq1, fun h => absurd rfl h⟩
    · rename_i L x l' h
      rw [h] at wf1 eq1 full1
      obtain ⟨wf2, eq2, full2⟩ := build_spec d l'
      split
      rename_i R l'' h2
      rw [h2] at wf2 eq2 full2
      have hL := full1 (by simp)
      refine ⟨⟨wf1, wf2, hL.symm⟩, ?_, fun hne => ?_⟩
      · simp only [toList, List.append_assoc, List.cons_append, eq2, eq1]
      · have := full2 hne
        have : 0 < 2 ^ d := Nat.two_pow_pos d
        simp only [toList, List.length_append, List.length_cons, *, Nat.pow_succ]; omega

theorem toList_ofList (l : List α) : (ofList l).toList = l := by
  obtain ⟨_, eq, full⟩ := build_spec (l.length.log2 + 1) l
  unfold ofList
  cases h : (build (l.length.log2 + 1) l).2 with
  | nil => rw [h, List.append_nil] at eq; exact eq
  | cons x r =>
    have h1 := full (by simp [h])
    have h2 := congrArg List.length eq
    have := @Nat.lt_log2_self l.length
    rw [List.length_append, h1, h] at h2
    simp at h2; omega

theorem getD_eq_get (l : List α) (n : Nat) (d : α) : l.getD n d = (ofList l).get n d := by
  rw [ofList, get_toList _ (build_spec _ l).1, ← ofList, toList_ofList, List.getD_eq_getElem?_getD]

end Table
end WS.CIR
