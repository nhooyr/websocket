import WS.CIR.Lockset
/-
  Analysis 3 — nothing follows a Close frame (C16).  A flag `CS` ("a close frame was sent"),
  only touched under lock `W`, is tested before every data or close frame and set before the
  close frame is written.
-/
namespace WS.CIR.CloseSent
open WS.CIR WS.CIR.Lockset

/-- what the thread knows about CS inside the current critical section. -/
inductive Know
  | unknown
  | isFalse      -- tested false since W was acquired
  | setByMe      -- tested false, then set by this thread; the close frame is not written yet
  deriving Repr, DecidableEq, Inhabited

inductive Piece
  | dataBegin    -- first piece of a data frame
  | closeBegin   -- first piece of a close frame
  | other
  deriving Repr, DecidableEq

structure Spec where
  W : Nat
  CS : Nat
  piece : Nat → Piece

abbrev Ann := List Know

def know (a : Ann) (n : Node) : Know := a.getD n .unknown

/-- `b` may be assumed at a successor when `a` is known here (knowledge can only be forgotten). -/
def weaker (b a : Know) : Bool := b == .unknown || b == a

def checkNode (S : Spec) (P : Prog) (c : Cert) (a : Ann) (n : Node) : Bool :=
  let k := know a n
  -- knowledge is only kept while W is held
  (k == .unknown || (held c n).contains S.W) &&
  (match P.at n with
   | .test f t e =>
     if f == S.CS then weaker (know a t) k && (know a e == .unknown || (know a e == .isFalse && (held c n).contains S.W) || know a e == k)
     else weaker (know a t) k && weaker (know a e) k
   | .set f v nx =>
     if f == S.CS then
       -- CS is only ever set to true, under W, after having been tested false
       v && (held c n).contains S.W && k == .isFalse && (know a nx == .setByMe || know a nx == .unknown)
     else weaker (know a nx) k
   | .cas f w l => f != S.CS && weaker (know a w) k && weaker (know a l) k
   | .wr p ok err =>
     (match S.piece p with
      | .dataBegin => k == .isFalse && weaker (know a ok) k
      | .closeBegin => k == .setByMe && know a ok == .unknown
      | .other => weaker (know a ok) k) && weaker (know a err) k
   | .unlock m nx => if m == S.W then know a nx == .unknown else weaker (know a nx) k
   | .spawn e nx => know a e == .unknown && weaker (know a nx) k
   | i => i.succs.all (fun s => weaker (know a s) k))

def check (S : Spec) (P : Prog) (c : Cert) (a : Ann) : Bool :=
  Lockset.check P c &&
  (List.range P.code.length).all (checkNode S P c a) &&
  P.entries.all (fun e => know a e == .unknown) && P.boot.all (fun e => know a e == .unknown) &&
  a.length ≤ P.code.length

/-- nothing follows a close frame: no data frame and no second close frame begins after one. -/
def NothingAfterClose (S : Spec) : List (Nat × Nat) → Bool
  | [] => true
  | (_, p) :: rest =>
    if S.piece p == .closeBegin then rest.all (fun e => S.piece e.2 == .other)
    else NothingAfterClose S rest

def hasClose (S : Spec) (w : List (Nat × Nat)) : Bool := w.any (fun e => S.piece e.2 == .closeBegin)

theorem nac_append (S : Spec) (e : Nat × Nat) : ∀ w, NothingAfterClose S (w ++ [e]) =
    (NothingAfterClose S w && (!hasClose S w || S.piece e.2 == .other)) := by
  intro w
  induction w with
  | nil => simp [NothingAfterClose, hasClose]
  | cons x rest ih =>
    rw [hasClose] at ih ⊢
    simp only [List.cons_append, NothingAfterClose, List.any_cons, ih]
    split
    · next hp => simp [hp, List.all_append]
    · next hp => simp [hp]

/-- what a thread's knowledge says about the flag `b = CS` and about `cl` = "a close frame has begun". -/
def Holds (b cl : Bool) : Know → Prop
  | .unknown => True
  | .isFalse => b = false
  | .setByMe => b = true ∧ cl = false

theorem Holds.weaker {b cl : Bool} {k k' : Know} (h : Holds b cl k) (hw : weaker k' k = true) :
    Holds b cl k' := by
  rcases (by simpa [CloseSent.weaker] using hw : k' = .unknown ∨ k' = k) with rfl | rfl
  · trivial
  · exact h

structure Inv (S : Spec) (a : Ann) (g : G) : Prop where
  knows : ∀ (t n : Nat), g.pcs[t]? = some n → Holds (g.flag S.CS) (hasClose S g.wire) (know a n)
  noClose : g.flag S.CS = false → hasClose S g.wire = false
  nac : NothingAfterClose S g.wire = true

theorem Inv.move {S : Spec} {a : Ann} {g g' : G} {t n n' : Nat} (hi : Inv S a g)
    (hpc : g.pcs[t]? = some n) (hw : weaker (know a n') (know a n) = true)
    (hp : g'.pcs = g.pcs.set t n') (hf : g'.flag S.CS = g.flag S.CS) (hwire : g'.wire = g.wire) :
    Inv S a g' := by
  refine ⟨?_, by rw [hf, hwire]; exact hi.noClose, by rw [hwire]; exact hi.nac⟩
  rw [hp, hf, hwire]
  exact forall_set ((hi.knows t n hpc).weaker hw) fun t' k _ => hi.knows t' k

theorem Inv.push {S : Spec} {a : Ann} {g g' : G} {e : Nat} (hi : Inv S a g)
    (he : know a e = .unknown) (hp : g'.pcs = g.pcs ++ [e]) (hf : g'.flag = g.flag)
    (hwire : g'.wire = g.wire) : Inv S a g' := by
  refine ⟨?_, by rw [hf, hwire]; exact hi.noClose, by rw [hwire]; exact hi.nac⟩
  rw [hp, hf, hwire]
  exact forall_push (by rw [he]; trivial) hi.knows

theorem Inv.wrote {S : Spec} {a : Ann} {g : G} (hi : Inv S a g) (e : Nat × Nat)
    (he : S.piece e.2 ≠ .closeBegin) (hnac : NothingAfterClose S (g.wire ++ [e]) = true) :
    Inv S a { g with wire := g.wire ++ [e] } := by
  have hcl : hasClose S (g.wire ++ [e]) = hasClose S g.wire := by simp [hasClose, he]
  exact ⟨by rw [hcl]; exact hi.knows, by rw [hcl]; exact hi.noClose, hnac⟩

theorem sound (S : Spec) (P : Prog) (c : Cert) (a : Ann) (h : check S P c a = true) :
    ∀ g, Reach P g → Inv S a g := by
  simp only [check, Bool.and_eq_true, List.all_eq_true, decide_eq_true_eq, List.mem_range,
    beq_iff_eq] at h
  obtain ⟨⟨⟨⟨hL, hN⟩, hE⟩, hB⟩, hA⟩ := h
  -- knowledge is only kept under `W`, so at most one thread has any
  have hW : ∀ n, know a n ≠ .unknown → S.W ∈ held c n := by
    intro n hk
    have hc := hN n (Nat.lt_of_lt_of_le (List.lt_of_getD_ne hk) hA)
    simp only [checkNode, Bool.and_eq_true, Bool.or_eq_true, beq_iff_eq] at hc
    simpa using hc.1.resolve_left hk
  refine Reach.induct ⟨fun t n hp => ?_, fun _ => rfl, rfl⟩
    (fun g e _ ih he => ih.push (hE e he) rfl rfl rfl) ?_
  · rw [hB n (List.mem_of_getElem? hp)]; trivial
  intro g g' t n hr ih hpc hn hst
  -- if the moving thread knows anything it holds `W` and is the only one that does: after its move only
  -- its own new knowledge has to hold
  have alone : know a n ≠ .unknown → ∀ {b cl : Bool} {n' : Nat}, Holds b cl (know a n') →
      ∀ (t' k : Nat), (g.pcs.set t n')[t']? = some k → Holds b cl (know a k) := fun hk _ _ _ h' =>
    forall_set h' fun t' k hne hp' => by
      have hunk : know a k = .unknown := Decidable.byContradiction fun hk' =>
        hne (Lockset.exclusive P c hL g hr t' t k n S.W hp' hpc (hW k hk') (hW n hk))
      rw [hunk]
      trivial
  have hc := (Bool.and_eq_true _ _ ▸ hN n hn).2
  generalize P.at n = i at hst hc
  cases hst <;> simp only [Bool.and_eq_true, Instr.succs, List.all_eq_true] at hc
  case unlock m nx =>
    split at hc
    · exact ih.move hpc (by simp [weaker, beq_iff_eq.1 hc]) rfl rfl rfl
    · exact ih.move hpc hc rfl rfl rfl
  case testT => split at hc <;> exact ih.move hpc (Bool.and_eq_true _ _ ▸ hc).1 rfl rfl rfl
  case testF f x y hf =>
    split at hc
    · -- the thread has seen `CS` false
      next hfc =>
      rw [beq_iff_eq] at hfc
      subst hfc
      simp only [Bool.and_eq_true, Bool.or_eq_true, beq_iff_eq] at hc
      refine ⟨forall_set ?_ fun t' k _ => ih.knows t' k, ih.noClose, ih.nac⟩
      rcases hc.2 with (h3 | h3) | h3
      · rw [h3]; trivial
      · rw [h3.1]; exact hf
      · rw [h3]; exact ih.knows t n hpc
    · exact ih.move hpc (Bool.and_eq_true _ _ ▸ hc).2 rfl rfl rfl
  case set f v nx =>
    split at hc
    · -- `CS := true` by a thread that has seen it false under `W`: nobody else knows anything
      next hfc =>
      rw [beq_iff_eq] at hfc
      subst hfc
      simp only [Bool.and_eq_true, Bool.or_eq_true, beq_iff_eq] at hc
      obtain ⟨⟨⟨rfl, -⟩, hk⟩, hnx⟩ := hc
      have hcl : hasClose S g.wire = false :=
        ih.noClose (show Holds _ _ .isFalse from hk ▸ ih.knows t n hpc)
      refine ⟨?_, fun hb => by simp at hb, ih.nac⟩
      show ∀ (t' k : Nat), (g.pcs.set t nx)[t']? = some k →
        Holds (upd g.flag S.CS true S.CS) (hasClose S g.wire) (know a k)
      rw [upd_self]
      refine alone (by simp [hk]) ?_
      rcases hnx with h3 | h3 <;> rw [h3]
      · exact ⟨rfl, hcl⟩
      · trivial
    · next hfc =>
      exact ih.move hpc hc rfl (upd_ne _ _ fun e => hfc (by simp [e])) rfl
  case casWon f x y _ =>
    exact ih.move hpc hc.1.2 rfl (upd_ne _ _ fun e => by simp [e] at hc) rfl
  case casLost => exact ih.move hpc hc.2 rfl rfl rfl
  case wrErr => exact ih.move hpc hc.2 rfl rfl rfl
  case wrOk p ok err _ =>
    have hc := hc.1
    split at hc
    · -- a data frame begins: `CS` is false, so no close frame has begun
      next hp =>
      simp only [Bool.and_eq_true, beq_iff_eq] at hc
      have hb : Holds _ _ .isFalse := hc.1 ▸ ih.knows t n hpc
      exact (ih.wrote (t, p) (by simp [hp]) (by simp [nac_append, ih.nac, ih.noClose hb])).move
        hpc hc.2 rfl rfl rfl
    · -- the close frame begins: only this thread knows anything, and it forgets
      next hp =>
      simp only [Bool.and_eq_true, beq_iff_eq] at hc
      obtain ⟨hb, hcl⟩ : Holds _ _ .setByMe := hc.1 ▸ ih.knows t n hpc
      exact ⟨alone (by simp [hc.1]) (by rw [hc.2]; trivial),
        fun hb' => absurd (hb.symm.trans hb') nofun, by simp [nac_append, ih.nac, hcl]⟩
    · next hp =>
      exact (ih.wrote (t, p) (by simp [hp]) (by simp [nac_append, ih.nac, hp])).move
        hpc hc rfl rfl rfl
  case spawn e nx =>
    exact Inv.push (g := g.move t nx) (ih.move hpc hc.2 rfl rfl rfl) (beq_iff_eq.1 hc.1) rfl rfl rfl
  case branch hmem => exact ih.move hpc (hc _ hmem) rfl rfl rfl
  all_goals exact ih.move hpc (hc _ (by simp)) rfl rfl rfl

theorem nothing_after_close (S : Spec) (P : Prog) (c : Cert) (a : Ann) (h : check S P c a = true) :
    ∀ g, Reach P g → NothingAfterClose S g.wire = true :=
  fun g hr => (sound S P c a h g hr).nac

end WS.CIR.CloseSent
