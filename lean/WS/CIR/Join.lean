import WS.CIR.Lockset
/-
  Analysis 5 — joins (C20) and "born after" reasoning (C06).
  (a) `joinedAt`: channels the thread has certainly seen closed.  A closer that returns through the
      successful path of waitGoroutines has seen the goroutines' done-channels closed; the program
      closes such a channel only as the goroutine's very last action.
  (b) `passedAt`: the thread has taken an edge that is only enabled while flag `F` is false (lock
      acquisition for F = closed; winning the closing cas for F = closing).  A thread created while
      F was already true can never take such an edge, so it never reaches a successful return.
-/
namespace WS.CIR.Join
open WS.CIR
open WS.CIR.Lockset (sub sub_iff)

abbrev JAnn := List (List Nat)

def joinedAt (a : JAnn) (n : Node) : List Nat := a.getD n []

def checkJoinNode (P : Prog) (a : JAnn) (n : Node) : Bool :=
  let j := joinedAt a n
  match P.at n with
  | .await ch ok to => sub (joinedAt a ok) (ch :: j) && sub (joinedAt a to) j
  | .spawn e nx => (joinedAt a e).isEmpty && sub (joinedAt a nx) j
  | i => i.succs.all (fun s => sub (joinedAt a s) j)

def checkJoin (P : Prog) (a : JAnn) : Bool :=
  (List.range P.code.length).all (checkJoinNode P a) &&
  P.entries.all (fun e => (joinedAt a e).isEmpty) && P.boot.all (fun e => (joinedAt a e).isEmpty) &&
  a.length ≤ P.code.length

theorem joinedAt_ge {a : JAnn} {n : Nat} (h : a.length ≤ n) : joinedAt a n = [] :=
  List.getD_of_le _ h

def JInv (a : JAnn) (g : G) : Prop :=
  ∀ (t n : Nat), g.pcs[t]? = some n → ∀ ch ∈ joinedAt a n, g.sig ch = true

theorem JInv.move {a : JAnn} {g g' : G} {t n' : Nat} (hinv : JInv a g)
    (hp : g'.pcs = g.pcs.set t n') (hs : ∀ ch, g.sig ch = true → g'.sig ch = true)
    (hn' : ∀ ch ∈ joinedAt a n', g'.sig ch = true) : JInv a g' := by
  rw [JInv, hp]
  exact forall_set hn' fun t' k _ hk ch hch => hs ch (hinv t' k hk ch hch)

theorem JInv.push {a : JAnn} {g g' : G} {e : Nat} (hinv : JInv a g)
    (he : (joinedAt a e).isEmpty = true) (hp : g'.pcs = g.pcs ++ [e]) (hs : g'.sig = g.sig) :
    JInv a g' := by
  rw [JInv, hp, hs]
  exact forall_push (by simp [List.isEmpty_iff.1 he]) hinv

theorem joined_sound (P : Prog) (a : JAnn) (h : checkJoin P a = true) : ∀ g, Reach P g → JInv a g := by
  simp only [checkJoin, Bool.and_eq_true, List.all_eq_true, List.mem_range] at h
  obtain ⟨⟨⟨hN, hE⟩, hB⟩, -⟩ := h
  refine Reach.induct (fun t n hn ch hch => ?_) (fun g e _ ih he => ih.push (hE e he) rfl rfl) ?_
  · rw [List.isEmpty_iff.1 (hB n (List.mem_of_getElem? (l := P.boot) hn))] at hch; cases hch
  intro g g' t n _ ih hpc hlt hts
  have hc := hN n hlt
  unfold checkJoinNode at hc
  generalize P.at n = i at hts hc
  have old : ∀ {n'}, sub (joinedAt a n') (joinedAt a n) = true → ∀ ch ∈ joinedAt a n', g.sig ch = true :=
    fun hsub ch hch => ih t n hpc ch (sub_iff.1 hsub ch hch)
  cases hts <;> simp only [Bool.and_eq_true, Instr.succs, List.all_eq_true] at hc
  case awaitOk ch ok to hsig =>
    refine ih.move rfl (fun _ => id) fun x hx => ?_
    rcases List.mem_cons.1 (sub_iff.1 hc.1 x hx) with rfl | h1
    · exact hsig
    · exact ih t n hpc x h1
  case awaitTimeout => exact ih.move rfl (fun _ => id) (old hc.2)
  case spawn e nx =>
    exact JInv.push (g := g.move t nx) (ih.move rfl (fun _ => id) (old hc.2)) hc.1 rfl rfl
  case signal ch nx =>
    have mono : ∀ x, g.sig x = true → upd g.sig ch true x = true := fun x hx =>
      upd_eq_true hx fun _ => rfl
    exact ih.move rfl mono fun x hx => mono x (old (hc _ (by simp)) x hx)
  case branch hmem => exact ih.move rfl (fun _ => id) (old (hc _ hmem))
  all_goals exact ih.move rfl (fun _ => id) (old (hc _ (by simp)))

/-- channel `ch` is closed only as the last action of a goroutine (`signal ch` is followed by `done`). -/
def signalLast (P : Prog) (ch : Nat) : Bool :=
  (List.range P.code.length).all (fun n =>
    match P.at n with
    | .signal c nx => c != ch || (match P.at nx with | .done _ => true | _ => false)
    | _ => true)

/-- if `ch` is closed then a thread that has executed a `signal ch` sits — when `signalLast` holds —
at the `done` node that follows it: the goroutine that closes `ch` has exited. -/
theorem signalled_exited (P : Prog) (ch : Nat) (h : signalLast P ch = true) :
    ∀ g, Reach P g → g.sig ch = true →
      ∃ (t n : Nat), g.pcs[t]? = some n ∧ (∃ m, P.at m = .signal ch n) ∧ ∃ ok, P.at n = .done ok := by
  simp only [signalLast, List.all_eq_true, List.mem_range] at h
  refine Reach.induct nofun (fun g e _ ih _ hs => ?_) ?_
  · obtain ⟨t, n, hn, hd⟩ := ih hs
    exact ⟨t, n, List.getElem?_push_of_some hn, hd⟩
  intro g g' t0 n0 _ ih hn0 hlt hts hs
  -- the thread found at a `done` node is not the one that moves
  have keep : ∀ nx, g.sig ch = true → ∃ (t n : Nat), (g.pcs.set t0 nx)[t]? = some n ∧
      (∃ m, P.at m = .signal ch n) ∧ ∃ ok, P.at n = .done ok := fun nx hsg =>
    let ⟨t, ht⟩ := ih hsg
    ⟨t, exists_set hn0 ht fun ⟨_, ok, hd⟩ => by rw [hd] at hts; cases hts⟩
  have hsl := h n0 hlt
  generalize hi : P.at n0 = i at hts hsl
  cases hts
  case signal c nx =>
    by_cases hc : c = ch
    · subst hc
      refine ⟨t0, nx, List.getElem?_set_self (List.lt_of_getElem? hn0), ⟨n0, hi⟩, ?_⟩
      cases hnx : P.at nx <;> simp [hnx] at hsl ⊢
    · exact keep nx ((upd_ne g.sig true (Ne.symm hc)).symm.trans hs)
  case spawn e nx =>
    obtain ⟨t, n, hn, hd⟩ := keep nx hs
    exact ⟨t, n, List.getElem?_push_of_some hn, hd⟩
  all_goals exact keep _ hs

abbrev PAnn := List Bool

def passedAt (a : PAnn) (n : Node) : Bool := a.getD n false

/-- edges that are only enabled while flag `F` is false. -/
def checkPassNode (F : Nat) (exempt : List Node) (P : Prog) (a : PAnn) (n : Node) : Bool :=
  let p := passedAt a n
  match P.at n with
  | .lock _ ok err => (passedAt a ok → (p || F == fCLOSED)) && (passedAt a err → p)
  | .test f t e => (passedAt a t → p) && (passedAt a e → (p || f == F))
  | .cas f w l => (passedAt a w → (p || f == F)) && (passedAt a l → p)
  | .set f v nx => (f != F || v) && (passedAt a nx → p)     -- F is never reset
  | .spawn e nx => !passedAt a e && (passedAt a nx → p)
  | .done ok => !ok || p || exempt.contains n                -- a successful return (of a call in scope) needs a passed check
  | i => i.succs.all (fun s => passedAt a s → p)

def checkPass (F : Nat) (exempt : List Node) (P : Prog) (a : PAnn) : Bool :=
  (List.range P.code.length).all (checkPassNode F exempt P a) &&
  P.entries.all (fun e => !passedAt a e) && P.boot.all (fun e => !passedAt a e) &&
  a.length ≤ P.code.length

theorem pass_node {F : Nat} {exempt : List Node} {P : Prog} {a : PAnn} (h : checkPass F exempt P a = true) {n : Nat}
    (hn : n < P.code.length) : checkPassNode F exempt P a n = true := by
  simp only [checkPass, Bool.and_eq_true, List.all_eq_true, List.mem_range] at h
  exact h.1.1.1 n hn

theorem flag_monotone (F : Nat) (exempt : List Node) (P : Prog) (a : PAnn) (h : checkPass F exempt P a = true)
    (g g' : G) (hs : Step P g g') (hf : g.flag F = true) : g'.flag F = true := by
  cases hs with
  | start e _ he => exact hf
  | thread t n _ _ hn hstep =>
    have hc := pass_node h hstep.lt
    unfold checkPassNode at hc
    generalize P.at n = i at hstep hc
    cases hstep <;> try exact hf
    case set f v nx =>
      simp only [Bool.and_eq_true, Bool.or_eq_true, bne_iff_ne, ne_eq] at hc
      exact upd_eq_true hf fun e => hc.1.resolve_left (· e.symm)
    case casWon => exact upd_eq_true hf fun _ => rfl

def BInv (F : Nat) (a : PAnn) (g : G) : Prop :=
  g.born.length = g.pcs.length ∧
  ∀ (t n : Nat), g.pcs[t]? = some n → ∀ fl, g.born[t]? = some fl → fl F = true →
    g.flag F = true ∧ passedAt a n = false

theorem BInv.move {F : Nat} {a : PAnn} {g g' : G} (hinv : BInv F a g) {t n n' : Nat}
    (hpc : g.pcs[t]? = some n) (hp : g'.pcs = g.pcs.set t n') (hb : g'.born = g.born)
    (hfl : g.flag F = true → g'.flag F = true)
    (hn' : g.flag F = true → passedAt a n' = true → passedAt a n = true) : BInv F a g' := by
  rw [BInv, hp, hb]
  refine ⟨by rw [List.length_set]; exact hinv.1, forall_set (fun fl hfl' hF => ?_) ?_⟩
  · obtain ⟨h1, h2⟩ := hinv.2 t n hpc fl hfl' hF
    exact ⟨hfl h1, Bool.eq_false_iff.2 fun hq => by rw [hn' h1 hq] at h2; cases h2⟩
  · intro t' k _ hk fl hfl' hF
    exact ⟨hfl (hinv.2 t' k hk fl hfl' hF).1, (hinv.2 t' k hk fl hfl' hF).2⟩

theorem BInv.push {F : Nat} {a : PAnn} {g g' : G} (hinv : BInv F a g) {e : Nat}
    (he : passedAt a e = false) (hp : g'.pcs = g.pcs ++ [e]) (hb : g'.born = g.born ++ [g.flag])
    (hfl : g'.flag = g.flag) : BInv F a g' := by
  rw [BInv, hp, hb, hfl]
  refine ⟨by simp [hinv.1], forall_push (fun fl hfl' hF => ?_) fun t k hk fl hfl' hF => ?_⟩
  · rw [← hinv.1, List.getElem?_concat_length] at hfl'
    cases hfl'
    exact ⟨hF, he⟩
  · rw [List.getElem?_append_left (hinv.1 ▸ List.lt_of_getElem? hk)] at hfl'
    exact hinv.2 t k hk fl hfl' hF

theorem pass_sound (F : Nat) (exempt : List Node) (P : Prog) (a : PAnn) (h : checkPass F exempt P a = true) :
    ∀ g, Reach P g → BInv F a g := by
  have hchk := h
  simp only [checkPass, Bool.and_eq_true, List.all_eq_true, Bool.not_eq_true'] at hchk
  obtain ⟨⟨⟨-, hE⟩, hB⟩, -⟩ := hchk
  refine Reach.induct ⟨by simp [G.boot], fun t n _ fl hfl hF => ?_⟩
    (fun g e _ ih he => ih.push (hE e he) rfl rfl rfl) ?_
  · obtain ⟨_, -, rfl⟩ := List.getElem?_map.symm.trans hfl |> Option.map_eq_some_iff.1
    cases hF
  intro g g' t n _ ih hpc hlt hts
  have step : ∀ n', g'.pcs = g.pcs.set t n' → g'.born = g.born →
      (g.flag F = true → passedAt a n' = true → passedAt a n = true) → BInv F a g' := fun n' hp hb =>
    ih.move hpc hp hb (flag_monotone F exempt P a h g g' (.thread t n g g' hpc hts))
  have hc := pass_node h hlt
  unfold checkPassNode at hc
  generalize P.at n = i at hts hc step
  cases hts <;> simp only [Bool.and_eq_true, Bool.or_eq_true, decide_eq_true_eq, beq_iff_eq,
    Instr.succs, List.all_eq_true] at hc
  -- an edge that is only enabled while `F` is false is not taken once `F` is true
  case lockOk hcl =>
    exact step _ rfl rfl fun hF hq => (hc.1 hq).resolve_right fun e => by rw [e, hcl] at hF; cases hF
  case testF hfl =>
    exact step _ rfl rfl fun hF hq => (hc.2 hq).resolve_right fun e => by rw [← e, hfl] at hF; cases hF
  case casWon hfl =>
    exact step _ rfl rfl fun hF hq => (hc.1 hq).resolve_right fun e => by rw [← e, hfl] at hF; cases hF
  case lockErr => exact step _ rfl rfl fun _ => hc.2
  case testT => exact step _ rfl rfl fun _ => hc.1
  case casLost => exact step _ rfl rfl fun _ => hc.2
  case set => exact step _ rfl rfl fun _ => hc.2
  case spawn e nx =>
    exact BInv.push (g := g.move t nx) (ih.move hpc rfl rfl id fun _ => hc.2) (by simpa using hc.1)
      rfl rfl rfl
  case branch hmem => exact step _ rfl rfl fun _ => hc _ hmem
  all_goals exact step _ rfl rfl fun _ => hc _ (by simp)

/-- **closed (closing) is final**: a thread created when flag `F` was already true — a call that
starts after the connection was closed, or a Close/CloseNow after an earlier one has begun — never
reaches a successful return, in any interleaving. -/
theorem born_after_never_succeeds (F : Nat) (exempt : List Node) (P : Prog) (a : PAnn) (h : checkPass F exempt P a = true)
    (g : G) (hr : Reach P g) (t n : Nat) (hn : g.pcs[t]? = some n)
    (hb : ∃ fl, g.born[t]? = some fl ∧ fl F = true) (hex : exempt.contains n = false) :
    P.at n ≠ .done true := by
  obtain ⟨fl, hbt, hflF⟩ := hb
  obtain ⟨_, hp⟩ := (pass_sound F exempt P a h g hr).2 t n hn fl hbt hflF
  intro hd
  have hc := pass_node h (Prog.lt_of_at_ne (n := n) (by simp [hd]))
  simp [checkPassNode, hd, hp] at hc
  simp [hc] at hex

end WS.CIR.Join
