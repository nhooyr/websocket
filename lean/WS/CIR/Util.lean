import WS.CIR.Core
import WS.CIR.Table
import WS.Proofs.Lists
/-
  Generic facts about the CIR semantics used by several properties (the wire is append-only; the nodes
  reachable from an entry, `reachFrom`, with `reachFrom_eq` for its kernel evaluation), and what the
  soundness proofs of the analyses share: an analysis keeps, per thread, a fact about the node the thread is at; a step
  moves one thread along an edge of the program and perhaps starts another, so its invariant survives
  if the moving thread re-establishes its fact at the new node (`forall_set`), a new thread starts
  with a trivial one (`forall_push`) and the facts of the other threads are stable.  Each proof is an
  induction `Reach.induct` whose thread case splits over `TStep`; after the split the new state is
  explicit, so what an instruction leaves alone is left alone by `rfl`.
-/
namespace WS.CIR

theorem wire_prefix (P : Prog) (g g' : G) (h : Step P g g') : g.wire <+: g'.wire := by
  cases h with
  | start e g he => exact List.prefix_refl _
  | thread t n g g' hn ht =>
    generalize P.at n = i at ht
    cases ht <;> first
      | exact List.prefix_refl _
      | exact List.prefix_append _ _

/-- nodes statically reachable from `start`: depth-first search with a work list; the fuel counts items taken
off the work list (one per edge followed, the skeleton's instructions have few successors). That the fuel
suffices is not proved: a result cut short would be a subset. -/
def reachFrom (P : Prog) (start : Node) : List Node :=
  let rec go : Nat → List Node → List Node → List Node
    | 0, _, seen => seen
    | _ + 1, [], seen => seen
    | fuel + 1, n :: work, seen =>
      if seen.contains n then go fuel work seen
      else go fuel ((P.at n).succs ++ work) (n :: seen)
  go (4 * P.code.length + 4) [start] []

/-- `reachFrom.go` over any successor function: lets the kernel run the search with the instruction
lookup of its choice (`reachFrom_eq`). -/
def reachBy (succ : Node → List Node) : Nat → List Node → List Node → List Node
  | 0, _, seen => seen
  | _ + 1, [], seen => seen
  | fuel + 1, n :: work, seen =>
    if seen.contains n then reachBy succ fuel work seen
    else reachBy succ fuel (succ n ++ work) (n :: seen)

theorem reachFrom_eq (P : Prog) (start : Node) :
    reachFrom P start =
      reachBy (fun n => ((Table.ofList P.code).get n (.done false)).succs) (4 * P.code.length + 4) [start] [] := by
  have go : ∀ fuel work seen, reachFrom.go P fuel work seen =
      reachBy (fun n => ((Table.ofList P.code).get n (.done false)).succs) fuel work seen := by
    intro fuel
    induction fuel with
    | zero => intros; rfl
    | succ fuel ih =>
      intro work seen
      cases work <;> simp only [reachFrom.go, reachBy, Prog.at, Table.getD_eq_get, ih]
  exact go _ _ _

@[simp] theorem upd_self {α : Type} (f : Nat → α) (k : Nat) (v : α) : upd f k v k = v := by
  simp [upd]

theorem upd_ne {α : Type} (f : Nat → α) {k x : Nat} (v : α) (h : x ≠ k) : upd f k v x = f x := by
  simp [upd, h]

theorem upd_eq_true {f : Nat → Bool} {k x : Nat} {v : Bool} (h : f x = true) (hv : x = k → v = true) :
    upd f k v x = true := by
  unfold upd; split
  · exact hv ‹_›
  · exact h

theorem Prog.lt_of_at_ne {P : Prog} {n : Nat} (h : P.at n ≠ .done false) : n < P.code.length :=
  List.lt_of_getD_ne h

theorem TStep.lt {P : Prog} {t n : Nat} {g g' : G} (h : TStep t (P.at n) g g') : n < P.code.length :=
  Prog.lt_of_at_ne fun hd => by rw [hd] at h; cases h

theorem forall_set {l : List Node} {t : Nat} {n' : Node} {Q : Nat → Node → Prop} (self : Q t n')
    (others : ∀ (t' k : Nat), t' ≠ t → l[t']? = some k → Q t' k) :
    ∀ (t' k : Nat), (l.set t n')[t']? = some k → Q t' k := by
  intro t' k h
  rw [List.getElem?_set] at h
  split at h
  · next heq => subst heq; split at h <;> cases h; exact self
  · next hne => exact others t' k (Ne.symm hne) h

theorem exists_set {l : List Node} {t t1 n n' : Nat} {p : Node → Prop} (hpc : l[t]? = some n)
    (h : ∃ k, l[t1]? = some k ∧ p k) (hmove : p n → p n') : ∃ k, (l.set t n')[t1]? = some k ∧ p k := by
  obtain ⟨k, hk, hp⟩ := h
  by_cases ht : t1 = t
  · subst ht
    obtain rfl : n = k := Option.some.inj (hpc.symm.trans hk)
    exact ⟨n', List.getElem?_set_self (List.lt_of_getElem? hpc), hmove hp⟩
  · exact ⟨k, by rw [List.getElem?_set_ne (Ne.symm ht)]; exact hk, hp⟩

theorem forall_push {l : List Node} {e : Node} {Q : Nat → Node → Prop} (new : Q l.length e)
    (old : ∀ (t k : Nat), l[t]? = some k → Q t k) :
    ∀ (t k : Nat), (l ++ [e])[t]? = some k → Q t k := by
  intro t k h
  rw [List.getElem?_append_singleton] at h
  split at h
  · next ht => cases h; exact ht ▸ new
  · exact old t k h

theorem Reach.induct {P : Prog} {I : G → Prop} (boot : I (G.boot P))
    (start : ∀ g e, Reach P g → I g → e ∈ P.entries →
      I { g with pcs := g.pcs ++ [e], born := g.born ++ [g.flag] })
    (thread : ∀ g g' t n, Reach P g → I g → g.pcs[t]? = some n → n < P.code.length →
      TStep t (P.at n) g g' → I g') :
    ∀ g, Reach P g → I g := by
  intro g hr
  induction hr with
  | init => exact boot
  | step g g' hr hs ih =>
    cases hs with
    | start e _ he => exact start g e hr ih he
    | thread t n _ _ hpc hts => exact thread g g' t n hr ih hpc hts.lt hts

end WS.CIR
