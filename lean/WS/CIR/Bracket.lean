import WS.CIR.Lockset
/-
  Analysis 2 — bracket discipline under a lock (generic).  Transport pieces are classified as
  opening a bracket, continuing it, closing it, or irrelevant.  With `L` = writeFrameMu and
  (frame header, payload piece, frame end) this is "each frame is written atomically"; with
  `L` = msgWriter.mu and (first non-final data frame, continuation, final continuation) it is
  "frames of two data messages are never interleaved".
-/
namespace WS.CIR.Bracket
open WS.CIR WS.CIR.Lockset

inductive Cls
  | opens
  | mid
  | closes
  | single    -- a whole bracket at once (e.g. an unfragmented message)
  | other     -- irrelevant for this discipline
  deriving Repr, DecidableEq

structure Spec where
  L : Nat                -- the lock that protects the bracket
  cls : Nat → Cls

abbrev Ann := List Bool  -- per node: the thread is inside a bracket it opened

def isOpen (a : Ann) (n : Node) : Bool := a.getD n false

def checkNode (S : Spec) (P : Prog) (c : Cert) (a : Ann) (n : Node) : Bool :=
  let o := isOpen a n
  (!o || (held c n).contains S.L) &&
  (match P.at n with
   | .wr k ok _ =>
     (match S.cls k with
      | .opens => !o && (held c n).contains S.L && isOpen a ok
      | .mid => o && isOpen a ok
      | .closes => o && !isOpen a ok
      | .single => !o && (held c n).contains S.L && !isOpen a ok
      | .other => isOpen a ok == o)
     -- the error edge is unconstrained: the transport is broken, nothing is written any more
   | .unlock m nx => (m != S.L || !o) && (isOpen a nx == o)
   | .spawn e nx => !isOpen a e && (isOpen a nx == o)
   | .done _ => true     -- a thread may stop inside a bracket (an abandoned message): the lock stays held
   | i => i.succs.all (fun s => isOpen a s == o))

def check (S : Spec) (P : Prog) (c : Cert) (a : Ann) : Bool :=
  Lockset.check P c &&
  (List.range P.code.length).all (checkNode S P c a) &&
  P.entries.all (fun e => !isOpen a e) && P.boot.all (fun e => !isOpen a e) &&
  a.length ≤ P.code.length

/-- scan the wire: `none` = ill-formed; `some none` = all brackets closed; `some (some t)` = the last
bracket, opened by thread `t`, is still open. -/
def scan (S : Spec) : List (Nat × Nat) → Option (Option Nat) → Option (Option Nat)
  | [], st => st
  | (t, k) :: rest, st =>
    match st with
    | none => none
    | some cur =>
      match S.cls k with
      | .opens => if cur = none then scan S rest (some (some t)) else none
      | .mid => if cur = some t then scan S rest (some (some t)) else none
      | .closes => if cur = some t then scan S rest (some none) else none
      | .single => if cur = none then scan S rest (some none) else none
      | .other => scan S rest (some cur)

/-- the wire is well bracketed: brackets of different threads never interleave (a trailing open
bracket is allowed: its writer is still at work, or the transport broke). -/
def WellBracketed (S : Spec) (wire : List (Nat × Nat)) : Prop := ∃ st, scan S wire (some none) = some st

theorem scan_none (S : Spec) (w : List (Nat × Nat)) : scan S w none = none := by
  cases w with
  | nil => rfl
  | cons p r => obtain ⟨t, k⟩ := p; rfl

theorem scan_append (S : Spec) (w1 w2 : List (Nat × Nat)) :
    ∀ st, scan S (w1 ++ w2) st = scan S w2 (scan S w1 st) := by
  induction w1 with
  | nil => intro st; rfl
  | cons p r ih =>
    intro st
    obtain ⟨t, k⟩ := p
    cases st with
    | none => simp [scan, scan_none]
    | some cur =>
      simp only [List.cons_append, scan]
      cases S.cls k <;> simp only [] <;> (try split) <;> simp [ih, scan_none]

def Inv (S : Spec) (a : Ann) (g : G) : Prop :=
  ∃ st, scan S g.wire (some none) = some st ∧
    (g.broken = false → ∀ t, st = some t ↔ ∃ n, g.pcs[t]? = some n ∧ isOpen a n = true)

theorem owner_set {a : Ann} {pcs : List Node} {t n n' : Nat} {st st' : Option Nat}
    (hiff : ∀ t', st = some t' ↔ ∃ k, pcs[t']? = some k ∧ isOpen a k = true)
    (hpc : pcs[t]? = some n) (self : st' = some t ↔ isOpen a n' = true)
    (others : ∀ t', t' ≠ t → (st' = some t' ↔ st = some t')) :
    ∀ t', st' = some t' ↔ ∃ k, (pcs.set t n')[t']? = some k ∧ isOpen a k = true := by
  intro t'
  by_cases h : t' = t
  · subst h; simp [self, List.lt_of_getElem? hpc]
  · rw [others t' h, hiff t', List.getElem?_set_ne (Ne.symm h)]

theorem Inv.move {S : Spec} {a : Ann} {g g' : G} {t n n' : Nat} (hinv : Inv S a g)
    (hpc : g.pcs[t]? = some n) (ho : isOpen a n' = isOpen a n) (hw : g'.wire = g.wire)
    (hb : g'.broken = false → g.broken = false) (hp : g'.pcs = g.pcs.set t n') : Inv S a g' := by
  obtain ⟨st, hs, hiff⟩ := hinv
  refine ⟨st, by rw [hw]; exact hs, fun hb' => ?_⟩
  rw [hp]
  exact owner_set (hiff (hb hb')) hpc (by rw [hiff (hb hb') t, ho]; simp [hpc]) fun _ _ => Iff.rfl

theorem Inv.push {S : Spec} {a : Ann} {g g' : G} {e : Nat} (hinv : Inv S a g)
    (he : isOpen a e = false) (hw : g'.wire = g.wire)
    (hb : g'.broken = false → g.broken = false) (hp : g'.pcs = g.pcs ++ [e]) : Inv S a g' := by
  obtain ⟨st, hs, hiff⟩ := hinv
  refine ⟨st, by rw [hw]; exact hs, fun hb' t' => ?_⟩
  rw [hp, hiff (hb hb') t', List.getElem?_append_singleton]
  split
  · next h => simp [h, he]
  · rfl

theorem Inv.broken {S : Spec} {a : Ann} {g g' : G} (hinv : Inv S a g)
    (hw : g'.wire = g.wire) (hb : g'.broken = true) : Inv S a g' := by
  obtain ⟨st, hs, _⟩ := hinv
  refine ⟨st, by rw [hw]; exact hs, ?_⟩
  intro hb'; rw [hb] at hb'; cases hb'

/-- `hc` is the `.wr` clause of `checkNode` as `sound` finds it, with `(held c n).contains S.L` abstracted to
`hasL`: of the lock the proof needs only `hex`. -/
theorem Inv.wrOk {S : Spec} {a : Ann} {g : G} {t n k ok : Nat} {hasL : Bool} (hinv : Inv S a g)
    (hbr : g.broken = false) (hpc : g.pcs[t]? = some n)
    (hex : hasL = true → ∀ t' n', g.pcs[t']? = some n' → isOpen a n' = true → t' = t)
    (hc : (match S.cls k with
      | .opens => !isOpen a n && hasL && isOpen a ok
      | .mid => isOpen a n && isOpen a ok
      | .closes => isOpen a n && !isOpen a ok
      | .single => !isOpen a n && hasL && !isOpen a ok
      | .other => isOpen a ok == isOpen a n) = true) :
    Inv S a { (g.move t ok) with wire := g.wire ++ [(t, k)] } := by
  obtain ⟨st, hs, hiff⟩ := hinv
  have hiff := hiff hbr
  have hopen : isOpen a n = true → st = some t := fun ho => (hiff t).2 ⟨n, hpc, ho⟩
  have hclosed : isOpen a n = false → hasL = true → st = none := by
    intro ho hl
    cases st with
    | none => rfl
    | some t' =>
      obtain ⟨n', hn', ho'⟩ := (hiff t').1 rfl
      obtain rfl := hex hl t' n' hn' ho'
      rw [hpc] at hn'; cases hn'
      rw [ho] at ho'; cases ho'
  suffices ∃ st', scan S [(t, k)] (some st) = some st' ∧ (st' = some t ↔ isOpen a ok = true) ∧
      ∀ t', t' ≠ t → (st' = some t' ↔ st = some t') by
    obtain ⟨st', h1, h2, h3⟩ := this
    exact ⟨st', by rw [scan_append, hs]; exact h1, fun _ => owner_set hiff hpc h2 h3⟩
  simp only [scan]
  cases hk : S.cls k <;> simp only [hk, Bool.and_eq_true, Bool.not_eq_true', beq_iff_eq] at hc ⊢
  case opens =>
    obtain rfl := hclosed hc.1.1 hc.1.2
    exact ⟨some t, by simp, by simp [hc.2], fun t' h => by simp [Ne.symm h]⟩
  case mid =>
    obtain rfl := hopen hc.1
    exact ⟨some t, by simp, by simp [hc.2], fun _ _ => Iff.rfl⟩
  case closes =>
    obtain rfl := hopen hc.1
    exact ⟨none, by simp, by simp [hc.2], fun t' h => by simp [Ne.symm h]⟩
  case single =>
    obtain rfl := hclosed hc.1.1 hc.1.2
    exact ⟨none, by simp, by simp [hc.2], fun _ _ => Iff.rfl⟩
  case other => exact ⟨st, rfl, by rw [hiff t, hc]; simp [hpc], fun _ _ => Iff.rfl⟩

theorem sound (S : Spec) (P : Prog) (c : Cert) (a : Ann) (h : check S P c a = true) :
    ∀ g, Reach P g → Inv S a g := by
  simp only [check, Bool.and_eq_true, List.all_eq_true, List.mem_range, decide_eq_true_eq,
    Bool.not_eq_true'] at h
  obtain ⟨⟨⟨⟨hL, hN⟩, hE⟩, hB⟩, hA⟩ := h
  refine Reach.induct ⟨none, rfl, fun _ t => ⟨nofun, ?_⟩⟩
    (fun g e _ ih he => ih.push (hE e he) rfl id rfl) ?_
  · rintro ⟨n, hn, ho⟩
    rw [hB n (List.mem_of_getElem? (l := P.boot) hn)] at ho; cases ho
  intro g g' t n hr ih hpc hlt hts
  have hcn := hN n hlt
  simp only [checkNode, Bool.and_eq_true] at hcn
  -- a thread inside a bracket holds `S.L`, so the one that holds `S.L` is the only such thread
  have hex : (held c n).contains S.L = true →
      ∀ t' n', g.pcs[t']? = some n' → isOpen a n' = true → t' = t := by
    intro hl t' n' hn' ho'
    have hc' := hN n' (Nat.lt_of_lt_of_le
      (List.lt_of_getD_ne (show isOpen a n' ≠ false by simp [ho'])) hA)
    simp only [checkNode, ho', Bool.and_eq_true, Bool.not_true, Bool.false_or] at hc'
    exact Lockset.exclusive P c hL g hr t' t n' n S.L hn' hpc (by simpa using hc'.1)
      (by simpa using hl)
  replace hcn := hcn.2
  generalize P.at n = i at hcn hts
  cases hts <;> simp only [Instr.succs, Bool.and_eq_true, List.all_eq_true, beq_iff_eq] at hcn
  case wrOk hbr => exact ih.wrOk hbr hpc hex hcn
  case wrErr => exact ih.broken rfl rfl
  case spawn e nx =>
    exact Inv.push (g := g.move t nx) (ih.move hpc hcn.2 rfl id rfl) (by simpa using hcn.1)
      rfl id rfl
  case unlock => exact ih.move hpc hcn.2 rfl id rfl
  case branch hmem => exact ih.move hpc (hcn _ hmem) rfl id rfl
  all_goals exact ih.move hpc (hcn _ (by simp)) rfl id rfl

theorem wellBracketed (S : Spec) (P : Prog) (c : Cert) (a : Ann) (h : check S P c a = true)
    (g : G) (hr : Reach P g) : WellBracketed S g.wire :=
  let ⟨st, hs, _⟩ := sound S P c a h g hr
  ⟨st, hs⟩

end WS.CIR.Bracket
