import WS.CIR.Util
/-
  Analysis 1 — lock discipline.  A certificate assigns to every node the set of locks the
  executing thread certainly holds there.  `check` is decidable; `sound` says that for every
  program that passes, in every reachable state (any number of threads, any interleaving) a thread
  at a node really holds the locks the certificate claims — hence two threads are never at nodes
  that claim the same lock.
-/
namespace WS.CIR.Lockset
open WS.CIR

abbrev Cert := List (List Nat)

def held (c : Cert) (n : Node) : List Nat := c.getD n []

def sub (a b : List Nat) : Bool := a.all (fun x => b.contains x)

def checkNode (P : Prog) (c : Cert) (n : Node) : Bool :=
  let H := held c n
  match P.at n with
  | .lock m ok err => !H.contains m && sub (held c ok) (m :: H) && sub (held c err) H
  | .forceLock m nx => !H.contains m && sub (held c nx) (m :: H)
  | .tryLock m y no => !H.contains m && sub (held c y) (m :: H) && sub (held c no) H
  | .unlock m nx => H.contains m && sub (held c nx) (H.erase m) && !(held c nx).contains m
  | .spawn e nx => (held c e).isEmpty && sub (held c nx) H
  | i => i.succs.all (fun s => sub (held c s) H)

def check (P : Prog) (c : Cert) : Bool :=
  (List.range P.code.length).all (checkNode P c) &&
  P.entries.all (fun e => (held c e).isEmpty) && P.boot.all (fun e => (held c e).isEmpty) &&
  -- nodes outside the program hold nothing (asked of the certificate; no soundness proof needs it)
  c.length ≤ P.code.length

def LInv (c : Cert) (g : G) : Prop :=
  ∀ t n, g.pcs[t]? = some n → ∀ m ∈ held c n, g.holder m = some t

theorem sub_iff {a b : List Nat} : sub a b = true ↔ ∀ x ∈ a, x ∈ b := by
  simp [sub, List.all_eq_true]

theorem LInv.move {c : Cert} {g g' : G} {t n n' : Nat} (hinv : LInv c g)
    (hpc : g.pcs[t]? = some n) (hsub : sub (held c n') (held c n) = true)
    (hp : g'.pcs = g.pcs.set t n') (hh : g'.holder = g.holder) : LInv c g' := by
  rw [LInv, hp, hh]
  exact forall_set (fun x hx => hinv t n hpc x (sub_iff.1 hsub x hx)) fun t' k _ => hinv t' k

theorem LInv.push {c : Cert} {g g' : G} {e : Nat} (hinv : LInv c g)
    (he : (held c e).isEmpty = true) (hp : g'.pcs = g.pcs ++ [e]) (hh : g'.holder = g.holder) :
    LInv c g' := by
  rw [LInv, hp, hh]
  exact forall_push (by simp [List.isEmpty_iff.1 he]) hinv

theorem acquire {c : Cert} {g g' : G} {t n n' m : Nat} (hinv : LInv c g)
    (hpc : g.pcs[t]? = some n) (hfree : g.holder m = none)
    (hsub : ∀ x ∈ held c n', x = m ∨ x ∈ held c n)
    (hp : g'.pcs = g.pcs.set t n') (hh : g'.holder = upd g.holder m (some t)) : LInv c g' := by
  rw [LInv, hp, hh]
  refine forall_set (fun x hx => ?_) fun t' k _ hk x hx => ?_
  · by_cases hxm : x = m
    · rw [hxm, upd_self]
    · rw [upd_ne _ _ hxm]; exact hinv t n hpc x ((hsub x hx).resolve_left hxm)
  · have hx' := hinv t' k hk x hx
    -- `m` was free, so another thread's claim is about another lock
    rw [upd_ne _ _ fun hxm => by rw [hxm, hfree] at hx'; cases hx']
    exact hx'

theorem release {c : Cert} {g g' : G} {t n n' m : Nat} (hinv : LInv c g)
    (hpc : g.pcs[t]? = some n) (hm : m ∈ held c n)
    (hsub : ∀ x ∈ held c n', x ∈ held c n ∧ x ≠ m)
    (hp : g'.pcs = g.pcs.set t n') (hh : g'.holder = upd g.holder m none) : LInv c g' := by
  rw [LInv, hp, hh]
  refine forall_set (fun x hx => ?_) fun t' k hne hk x hx => ?_
  · rw [upd_ne _ _ (hsub x hx).2]; exact hinv t n hpc x (hsub x hx).1
  · have hx' := hinv t' k hk x hx
    -- `m` is held by `t`, so another thread's claim is about another lock
    rw [upd_ne _ _ fun hxm => by rw [hxm, hinv t n hpc m hm] at hx'; exact hne (Option.some.inj hx').symm]
    exact hx'

theorem sound (P : Prog) (c : Cert) (h : check P c = true) : ∀ g, Reach P g → LInv c g := by
  simp only [check, Bool.and_eq_true, List.all_eq_true, List.mem_range] at h
  obtain ⟨⟨⟨hN, hE⟩, hB⟩, -⟩ := h
  refine Reach.induct (fun t n hk x hx => ?_) (fun g e _ ih he => ih.push (hE e he) rfl rfl) ?_
  · rw [List.isEmpty_iff.1 (hB n (List.mem_of_getElem? (l := P.boot) hk))] at hx; cases hx
  intro g g' t n _ ih hpc hn hs
  have hck := hN n hn
  unfold checkNode at hck
  generalize P.at n = i at hs hck
  have acq : ∀ m n', g.holder m = none → sub (held c n') (m :: held c n) = true →
      LInv c { g.move t n' with holder := upd g.holder m (some t) } := fun m n' hfree hsub =>
    acquire ih hpc hfree (fun x hx => List.mem_cons.1 (sub_iff.1 hsub x hx)) rfl rfl
  cases hs <;> simp only [Bool.and_eq_true, Instr.succs, List.all_eq_true] at hck
  case lockOk hfree _ => exact acq _ _ hfree hck.1.2
  case forceLock hfree => exact acq _ _ hfree hck.2
  case tryYes hfree => exact acq _ _ hfree hck.1.2
  case lockErr => exact ih.move hpc hck.2 rfl rfl
  case tryNo => exact ih.move hpc hck.2 rfl rfl
  case unlock m nx =>
    obtain ⟨⟨h1, h2⟩, h3⟩ := hck
    refine release ih hpc (by simpa using h1)
      (fun x hx => ⟨List.mem_of_mem_erase (sub_iff.1 h2 x hx), ?_⟩) rfl rfl
    rintro rfl
    simp [hx] at h3
  case spawn e nx => exact LInv.push (g := g.move t nx) (ih.move hpc hck.2 rfl rfl) hck.1 rfl rfl
  -- every other instruction leaves `holder` alone, and its successors claim no more than it does
  case branch hmem => exact ih.move hpc (hck _ hmem) rfl rfl
  all_goals exact ih.move hpc (hck _ (by simp)) rfl rfl

theorem exclusive (P : Prog) (c : Cert) (h : check P c = true) (g : G) (hr : Reach P g)
    (t1 t2 n1 n2 m : Nat) (h1 : g.pcs[t1]? = some n1) (h2 : g.pcs[t2]? = some n2)
    (m1 : m ∈ held c n1) (m2 : m ∈ held c n2) : t1 = t2 := by
  have hinv := sound P c h g hr
  exact Option.some.inj ((hinv t1 n1 h1 m m1).symm.trans (hinv t2 n2 h2 m m2))

end WS.CIR.Lockset
