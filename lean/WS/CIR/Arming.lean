import WS.CIR.Lockset
/-
  Analysis 4 — which context is in the timeout slots (C10, C09).
  `may`: slots in which the thread's own context may still be armed (over-approximation);
  `must`: slots in which it certainly is.  A thread that has returned successfully has an empty
  `may` set, so its context is in no slot: cancelling it afterwards enables nothing.  A thread
  blocked in transport I/O has the corresponding slot in its `must` set, so the expiry of its
  context is what the timeout goroutine waits for.
-/
namespace WS.CIR.Arming
open WS.CIR WS.CIR.Lockset

structure Spec where
  lockOf : Nat → Nat          -- the lock that protects a slot (readMu for the read slot, writeFrameMu for the write slot)
  readSlot : Nat
  writeSlot : Nat
  /-- `done true` nodes of calls that take no caller context (Close, CloseNow): they arm only internal
  5 s contexts, and the connection is closed when they return. -/
  exempt : List Node

structure Ann where
  may : List (List Nat)
  must : List (List Nat)

def mayAt (a : Ann) (n : Node) : List Nat := a.may.getD n []
def mustAt (a : Ann) (n : Node) : List Nat := a.must.getD n []

def checkNode (S : Spec) (P : Prog) (c : Cert) (a : Ann) (n : Node) : Bool :=
  let my := mayAt a n
  let mu := mustAt a n
  -- a slot is certainly ours only while we hold its lock; certainly implies possibly
  mu.all (fun s => (held c n).contains (S.lockOf s) && my.contains s) &&
  (match P.at n with
   | .arm s own ok cl =>
     (held c n).contains (S.lockOf s) &&
     (if own then sub my (mayAt a ok) && (mayAt a ok).contains s && sub (mustAt a ok) (s :: mu)
      else sub (my.erase s) (mayAt a ok) && sub (mustAt a ok) (mu.erase s) && !(mustAt a ok).contains s) &&
     sub my (mayAt a cl) && sub (mustAt a cl) mu
   | .io ok err => mu.contains S.readSlot && sub my (mayAt a ok) && sub my (mayAt a err) && sub (mustAt a ok) mu && sub (mustAt a err) mu
   | .wr _ ok err => mu.contains S.writeSlot && sub my (mayAt a ok) && sub my (mayAt a err) && sub (mustAt a ok) mu && sub (mustAt a err) mu
   | .unlock m nx => sub my (mayAt a nx) && sub (mustAt a nx) (mu.filter (fun s => S.lockOf s != m))
   | .spawn e nx => (mustAt a e).isEmpty && sub my (mayAt a nx) && sub (mustAt a nx) mu
   | .done ok => !ok || my.isEmpty || S.exempt.contains n
   | i => i.succs.all (fun s => sub my (mayAt a s) && sub (mustAt a s) mu))

def check (S : Spec) (P : Prog) (c : Cert) (a : Ann) : Bool :=
  Lockset.check P c &&
  (List.range P.code.length).all (checkNode S P c a) &&
  P.entries.all (fun e => (mustAt a e).isEmpty) && P.boot.all (fun e => (mustAt a e).isEmpty) &&
  a.may.length ≤ P.code.length && a.must.length ≤ P.code.length

structure Inv (a : Ann) (g : G) : Prop where
  may : ∀ (s t : Nat), g.slot s = some t → ∃ n, g.pcs[t]? = some n ∧ s ∈ mayAt a n
  must : ∀ (t n : Nat), g.pcs[t]? = some n → ∀ s ∈ mustAt a n, g.slot s = some t

theorem Inv.move {a : Ann} {g g' : G} {t n n' : Nat} (hi : Inv a g) (hpc : g.pcs[t]? = some n)
    (hsub : (sub (mayAt a n) (mayAt a n') && sub (mustAt a n') (mustAt a n)) = true)
    (hp : g'.pcs = g.pcs.set t n') (hslot : g'.slot = g.slot) : Inv a g' := by
  simp only [Bool.and_eq_true, sub_iff] at hsub
  constructor <;> rw [hp, hslot]
  · exact fun s t1 hs => exists_set hpc (hi.may s t1 hs) (hsub.1 s)
  · exact forall_set (fun s hs => hi.must t n hpc s (hsub.2 s hs)) fun t' k _ => hi.must t' k

theorem Inv.push {a : Ann} {g g' : G} {e : Nat} (hi : Inv a g) (he : mustAt a e = [])
    (hp : g'.pcs = g.pcs ++ [e]) (hslot : g'.slot = g.slot) : Inv a g' := by
  constructor <;> rw [hp, hslot]
  · intro s t hs
    obtain ⟨n, hn, hm⟩ := hi.may s t hs
    exact ⟨n, List.getElem?_push_of_some hn, hm⟩
  · exact forall_push (by simp [he]) hi.must

/-- `hex`: the thread holds the lock of `s0`, so no other thread has `s0` in its `must` set. -/
theorem Inv.arm {a : Ann} {g g' : G} {t n ok s0 : Nat} {own : Bool} (hi : Inv a g)
    (hpc : g.pcs[t]? = some n) (hp : g'.pcs = g.pcs.set t ok)
    (hslot : g'.slot = upd g.slot s0 (if own then some t else none))
    (hmay : ∀ x ∈ mayAt a n, x ≠ s0 → x ∈ mayAt a ok) (hown : own = true → s0 ∈ mayAt a ok)
    (hmust : ∀ x ∈ mustAt a ok, x ≠ s0 → x ∈ mustAt a n) (hbg : own = false → s0 ∉ mustAt a ok)
    (hex : ∀ (t' k : Nat), t' ≠ t → g.pcs[t']? = some k → s0 ∉ mustAt a k) : Inv a g' := by
  constructor <;> rw [hp, hslot]
  · intro s t1 hs
    by_cases hss : s = s0
    · subst hss
      cases own <;> simp at hs
      subst hs
      exact ⟨ok, List.getElem?_set_self (List.lt_of_getElem? hpc), hown rfl⟩
    · rw [upd_ne _ _ hss] at hs
      exact exists_set hpc (hi.may s t1 hs) fun hm => hmay s hm hss
  · refine forall_set (fun s hs => ?_) fun t' k hne hk s hs => ?_
    · by_cases hss : s = s0
      · subst hss
        cases own
        · exact absurd hs (hbg rfl)
        · simp
      · rw [upd_ne _ _ hss]; exact hi.must t n hpc s (hmust s hs hss)
    · rw [upd_ne _ _ fun hss => hex t' k hne hk (by rw [← hss]; exact hs)]; exact hi.must t' k hk s hs

/-- the clauses of `check`, by name. -/
structure Checked (S : Spec) (P : Prog) (c : Cert) (a : Ann) : Prop where
  ls : Lockset.check P c = true
  node : ∀ n, n < P.code.length → checkNode S P c a n = true
  entries : ∀ e ∈ P.entries, mustAt a e = []
  boot : ∀ e ∈ P.boot, mustAt a e = []
  mayLen : a.may.length ≤ P.code.length
  mustLen : a.must.length ≤ P.code.length

theorem checked_of_check {S : Spec} {P : Prog} {c : Cert} {a : Ann} (h : check S P c a = true) :
    Checked S P c a := by
  simp only [check, Bool.and_eq_true, List.all_eq_true, List.mem_range, decide_eq_true_eq,
    List.isEmpty_iff] at h
  obtain ⟨⟨⟨⟨⟨h1, h2⟩, h3⟩, h4⟩, h5⟩, h6⟩ := h
  exact ⟨h1, h2, h3, h4, h5, h6⟩

theorem mayAt_of_ge (a : Ann) (n : Nat) (h : a.may.length ≤ n) : mayAt a n = [] :=
  List.getD_of_le _ h

theorem must_holds_lock {S : Spec} {P : Prog} {c : Cert} {a : Ann} (hC : Checked S P c a)
    (n s : Nat) (hs : s ∈ mustAt a n) : S.lockOf s ∈ held c n := by
  have hlt : n < a.must.length := List.lt_of_getD_ne (d := []) fun h => by rw [mustAt, h] at hs; cases hs
  have := hC.node n (Nat.lt_of_lt_of_le hlt hC.mustLen)
  simp only [checkNode, Bool.and_eq_true, List.all_eq_true, List.contains_iff_mem] at this
  exact (this.1 s hs).1

theorem sound {S : Spec} {P : Prog} {c : Cert} {a : Ann} (hC : Checked S P c a) :
    ∀ g, Reach P g → Inv a g := by
  refine Reach.induct ⟨nofun, fun t n hn s hs => ?_⟩
    (fun g e _ ih he => ih.push (hC.entries e he) rfl rfl) ?_
  · rw [hC.boot n (List.mem_of_getElem? (l := P.boot) hn)] at hs; cases hs
  intro g g' t n hr ih hpc hlt hts
  have hc := (Bool.and_eq_true _ _ ▸ hC.node n hlt).2
  generalize P.at n = i at hts hc
  cases hts <;>
    simp only [Bool.and_eq_true, Instr.succs, List.all_cons, List.all_nil, Bool.and_true] at hc
  case armOk s0 own ok cl =>
    obtain ⟨⟨⟨hl, hif⟩, -⟩, -⟩ := hc
    have hex : ∀ (t' k : Nat), t' ≠ t → g.pcs[t']? = some k → s0 ∉ mustAt a k := fun t' k hne hk hs =>
      hne (Lockset.exclusive P c hC.ls g hr t' t k n (S.lockOf s0) hk hpc
        (must_holds_lock hC k s0 hs) (by simpa using hl))
    cases own <;> simp [sub_iff] at hif
    · -- Background is armed: `s0` leaves both sets
      obtain ⟨⟨hmay, hmust⟩, hnot⟩ : ((∀ x ∈ (mayAt a n).erase s0, x ∈ mayAt a ok) ∧
          ∀ x ∈ mustAt a ok, x ∈ (mustAt a n).erase s0) ∧ s0 ∉ mustAt a ok := hif
      exact ih.arm hpc rfl rfl (fun x hx hne => hmay x ((List.mem_erase_of_ne hne).2 hx)) nofun
        (fun x hx _ => List.mem_of_mem_erase (hmust x hx)) (fun _ => hnot) hex
    · -- the thread's own context is armed: `s0` enters `may`, and may enter `must`
      obtain ⟨⟨hmay, hown⟩, hmust⟩ : ((∀ x ∈ mayAt a n, x ∈ mayAt a ok) ∧ s0 ∈ mayAt a ok) ∧
          ∀ x ∈ mustAt a ok, x = s0 ∨ x ∈ mustAt a n := hif
      exact ih.arm hpc rfl rfl (fun x hx _ => hmay x hx) (fun _ => hown)
        (fun x hx hne => (hmust x hx).resolve_left hne) nofun hex
  case spawn e nx =>
    exact Inv.push (g := g.move t nx) (ih.move hpc (by simp [hc]) rfl rfl)
      (by simpa using hc.1.1) rfl rfl
  case unlock m nx =>
    have hmust : sub (mustAt a nx) (mustAt a n) = true :=
      sub_iff.2 fun z hz => (List.mem_filter.1 (sub_iff.1 hc.2 z hz)).1
    exact ih.move hpc (by simp [hc.1, hmust]) rfl rfl
  case branch hmem => exact ih.move hpc (List.all_eq_true.1 hc _ hmem) rfl rfl
  -- the other edges arm nothing, and the checker asks both inclusions of each of them
  all_goals exact ih.move hpc (by simp [hc]) rfl rfl

/-- **a finished call's context is in no slot** (so cancelling it later cannot close the connection),
for every program that checks, every number of threads and every interleaving. -/
theorem finished_not_armed (S : Spec) (P : Prog) (c : Cert) (a : Ann) (h : check S P c a = true)
    (g : G) (hr : Reach P g) (t n : Nat) (hn : g.pcs[t]? = some n) (hd : P.at n = .done true)
    (hex : S.exempt.contains n = false) :
    ∀ s, g.slot s ≠ some t := by
  have hC := checked_of_check h
  intro s hs
  obtain ⟨n1, hn1, hm⟩ := (sound hC g hr).may s t hs
  obtain rfl : n = n1 := Option.some.inj (hn.symm.trans hn1)
  have hc := hC.node n (Prog.lt_of_at_ne (by simp [hd]))
  simp [checkNode, hd] at hc
  obtain ⟨-, hdone⟩ : _ ∧ (mayAt a n = [] ∨ n ∈ S.exempt) := hc
  rw [hdone.resolve_right (by simpa using hex)] at hm; cases hm

/-- **a call blocked in transport I/O has its own context armed** in the slot the timeout goroutine
watches for that direction. -/
theorem blocked_has_own_ctx (S : Spec) (P : Prog) (c : Cert) (a : Ann) (h : check S P c a = true)
    (g : G) (hr : Reach P g) (t n : Nat) (hn : g.pcs[t]? = some n) :
    (∀ ok err, P.at n = .io ok err → g.slot S.readSlot = some t) ∧
    (∀ k ok err, P.at n = .wr k ok err → g.slot S.writeSlot = some t) := by
  have hC := checked_of_check h
  have hMust := (sound hC g hr).must t n hn
  refine ⟨fun ok err hi => ?_, fun k ok err hi => ?_⟩ <;>
  · have hc := hC.node n (Prog.lt_of_at_ne (by simp [hi]))
    simp [checkNode, hi] at hc
    -- the checker's clause for `io` / `wr` begins with "the slot is in the `must` set"
    obtain ⟨-, ⟨⟨⟨hslot, -⟩, -⟩, -⟩, -⟩ := hc
    exact hMust _ hslot

end WS.CIR.Arming
