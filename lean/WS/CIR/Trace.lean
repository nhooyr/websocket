import WS.CIR.Core
/-
  Trace validation: the thread-local observable behaviour of a CIR program.

  The Go code, built with the `verif` tag, reports an event at each synchronisation point that
  succeeds (lock acquired, lock released, timeout slot armed, frame begun / ended, transport read
  done, flag set, compare-and-swap won, goroutine spawned, channel closed, channel awaited).  Failures
  (a lock attempt that gives up, a failed write, ...) and data-dependent choices are not reported:
  they are silent moves here.  `accepts` is the executable acceptor the correspondence check runs
  (harness `cirtrace.go` → driver command `cirtrace`).  Only its soundness is proved: an accepted
  event sequence is the observation of a path along the instructions' static successors
  (`runSet_sound`, `run_cfpath`), the edges along which the program counter of a thread moves in the
  interleaving semantics of `Core`; that such a path is the run of a thread there is not claimed.
-/
namespace WS.CIR.Trace
open WS.CIR

inductive Ev
  | lock (m : Nat) | forceLock (m : Nat) | tryLock (m : Nat) | unlock (m : Nat)
  | set (f : Nat) | cas (f : Nat)
  | wrBegin (cls : Nat) | wrEnd (cls : Nat)
  | arm (slot : Nat) (own : Bool)
  | io | spawn | signal (ch : Nat) | await (ch : Nat)
  deriving DecidableEq, Repr, Inhabited

/-- Which operands are instrumented in the Go code (the others are silent). -/
structure Cfg where
  lockObs : Nat → Bool      -- channel mutexes are instrumented, the sync.Mutex `closeMu` is not
  setObs : Nat → Bool
  casObs : Nat → Bool
  sigObs : Nat → Bool
  awaitObs : Nat → Bool

/-- labelled thread-local moves of an instruction: `some e` = reported event, `none` = silent. -/
def lsuccs (c : Cfg) : Instr → List (Option Ev × Node)
  | .lock m ok err => [(if c.lockObs m then some (.lock m) else none, ok), (none, err)]
  | .forceLock m n => [(if c.lockObs m then some (.forceLock m) else none, n)]
  | .tryLock m y n => [(if c.lockObs m then some (.tryLock m) else none, y), (none, n)]
  | .unlock m n => [(if c.lockObs m then some (.unlock m) else none, n)]
  | .test _ a b => [(none, a), (none, b)]
  | .set f _ n => [(if c.setObs f then some (.set f) else none, n)]
  | .cas f w l => [(if c.casObs f then some (.cas f) else none, w), (none, l)]
  | .wr k ok err =>
      let piece := k % 10
      let cls := k / 10
      [(if piece = 0 then some (.wrBegin cls) else if piece = 2 then some (.wrEnd cls) else none, ok), (none, err)]
  | .arm s own ok cl => [(some (.arm s own), ok), (none, cl)]
  | .io ok err => [(some .io, ok), (none, err)]
  | .spawn _ n => [(some .spawn, n)]
  | .signal ch n => [(if c.sigObs ch then some (.signal ch) else none, n)]
  | .await ch ok to => [(if c.awaitObs ch then some (.await ch) else none, ok), (none, to)]
  | .branch ss => ss.map (fun n => (none, n))
  | .done _ => []

theorem lsuccs_snd (c : Cfg) (i : Instr) : (lsuccs c i).map Prod.snd = i.succs := by
  cases i <;> simp [lsuccs, Instr.succs, Function.comp_def]

theorem lsuccs_static (c : Cfg) (i : Instr) (oe : Option Ev) (n : Node) :
    (oe, n) ∈ lsuccs c i → n ∈ i.succs :=
  fun h => lsuccs_snd c i ▸ List.mem_map_of_mem (f := Prod.snd) h

inductive Run (c : Cfg) (P : Prog) : Node → List Ev → Node → Prop
  | nil (n) : Run c P n [] n
  | silent (n m k evs) : (none, m) ∈ lsuccs c (P.at n) → Run c P m evs k → Run c P n evs k
  | obs (n m k e evs) : (some e, m) ∈ lsuccs c (P.at n) → Run c P m evs k → Run c P n (e :: evs) k

theorem Run.trans {c : Cfg} {P : Prog} {a b d : Node} {e1 e2 : List Ev}
    (h1 : Run c P a e1 b) (h2 : Run c P b e2 d) : Run c P a (e1 ++ e2) d := by
  induction h1 with
  | nil n => simpa using h2
  | silent n m k evs hm _ ih => exact Run.silent n m d _ hm (ih h2)
  | obs n m k e evs hm _ ih => exact Run.obs n m d e _ hm (ih h2)

def silentSuccs (c : Cfg) (P : Prog) (n : Node) : List Node :=
  (lsuccs c (P.at n)).filterMap (fun p => if p.1.isNone then some p.2 else none)

def obsSuccs (c : Cfg) (P : Prog) (e : Ev) (n : Node) : List Node :=
  (lsuccs c (P.at n)).filterMap (fun p => if p.1 = some e then some p.2 else none)

def addNew (acc : List Node) (xs : List Node) : List Node :=
  xs.foldl (fun a x => if a.contains x then a else a ++ [x]) acc

/-- silent closure: `fuel` rounds of adding silent successors (stops early when nothing is new). -/
def closure (c : Cfg) (P : Prog) : Nat → List Node → List Node
  | 0, S => S
  | fuel + 1, S =>
      let S' := addNew S (S.flatMap (silentSuccs c P))
      if S'.length = S.length then S else closure c P fuel S'

def stepSet (c : Cfg) (P : Prog) (S : List Node) (e : Ev) : List Node :=
  closure c P P.code.length (addNew [] (S.flatMap (obsSuccs c P e)))

def runSet (c : Cfg) (P : Prog) (S : List Node) : List Ev → List Node
  | [] => S
  | e :: es => runSet c P (stepSet c P S e) es

def start (c : Cfg) (P : Prog) (entries : List Node) : List Node :=
  closure c P P.code.length (addNew [] entries)

inductive Fin | running | ok | err
  deriving DecidableEq, Repr

def finOk (P : Prog) (S : List Node) : Fin → Bool
  | .running => !S.isEmpty
  | .ok => S.any (fun n => P.at n == .done true)
  | .err => S.any (fun n => P.at n == .done false)

def accepts (c : Cfg) (P : Prog) (entries : List Node) (evs : List Ev) (fin : Fin) : Bool :=
  finOk P (runSet c P (start c P entries) evs) fin

/-- index of the first event at which the state set becomes empty (for the report). -/
def firstReject (c : Cfg) (P : Prog) : List Node → List Ev → Nat → Option Nat
  | _, [], _ => none
  | S, e :: es, i =>
      let S' := stepSet c P S e
      if S'.isEmpty then some i else firstReject c P S' es (i + 1)

theorem mem_addNew {acc xs : List Node} {k : Node} : k ∈ addNew acc xs → k ∈ acc ∨ k ∈ xs := by
  unfold addNew
  induction xs generalizing acc with
  | nil => exact .inl
  | cons x xs ih =>
    intro h
    rcases ih h with h1 | h1
    · dsimp only at h1
      split at h1
      · exact .inl h1
      · exact (List.mem_append.1 h1).imp_right fun h => by rw [List.mem_singleton.1 h]; exact List.mem_cons_self
    · exact .inr (List.mem_cons_of_mem _ h1)

theorem mem_silentSuccs {c : Cfg} {P : Prog} {n k : Node} :
    k ∈ silentSuccs c P n → (none, k) ∈ lsuccs c (P.at n) := by
  simp only [silentSuccs, List.mem_filterMap]
  rintro ⟨⟨_ | e, m⟩, hm, h⟩ <;> simp_all

theorem mem_obsSuccs {c : Cfg} {P : Prog} {e : Ev} {n k : Node} :
    k ∈ obsSuccs c P e n → (some e, k) ∈ lsuccs c (P.at n) := by
  simp only [obsSuccs, List.mem_filterMap]
  rintro ⟨⟨oe, m⟩, hm, h⟩
  by_cases hh : oe = some e <;> simp_all

theorem mem_closure {c : Cfg} {P : Prog} {k : Node} (fuel : Nat) (S : List Node)
    (h : k ∈ closure c P fuel S) : ∃ n ∈ S, Run c P n [] k := by
  induction fuel generalizing S with
  | zero => exact ⟨k, h, .nil k⟩
  | succ fuel ih =>
    simp only [closure] at h
    split at h
    · exact ⟨k, h, .nil k⟩
    · obtain ⟨m, hm, hr⟩ := ih _ h
      rcases mem_addNew hm with h1 | h1
      · exact ⟨m, h1, hr⟩
      · obtain ⟨n, hn, hnm⟩ := List.mem_flatMap.1 h1
        exact ⟨n, hn, .silent n m k [] (mem_silentSuccs hnm) hr⟩

theorem mem_runSet {c : Cfg} {P : Prog} {k : Node} (evs : List Ev) (S : List Node)
    (h : k ∈ runSet c P S evs) : ∃ n ∈ S, Run c P n evs k := by
  induction evs generalizing S with
  | nil => exact ⟨k, h, .nil k⟩
  | cons e es ih =>
    obtain ⟨m, hm, hr⟩ := ih _ h
    obtain ⟨x, hx, hxm⟩ := mem_closure _ _ hm
    obtain ⟨n, hn, hnx⟩ := List.mem_flatMap.1 ((mem_addNew hx).resolve_left nofun)
    exact ⟨n, hn, .obs n x k e es (mem_obsSuccs hnx) (hxm.trans hr)⟩

theorem runSet_sound (c : Cfg) (P : Prog) (entries : List Node) (evs : List Ev) :
    ∀ k ∈ runSet c P (start c P entries) evs, ∃ e ∈ entries, Run c P e evs k := by
  intro k hk
  obtain ⟨m, hm, hr⟩ := mem_runSet evs _ hk
  obtain ⟨e, he, hem⟩ := mem_closure _ _ hm
  exact ⟨e, (mem_addNew he).resolve_left nofun, hem.trans hr⟩

theorem accepts_sound_done (c : Cfg) (P : Prog) (entries : List Node) (evs : List Ev) (b : Bool)
    (h : (runSet c P (start c P entries) evs).any (fun n => P.at n == .done b) = true) :
    ∃ e ∈ entries, ∃ k, Run c P e evs k ∧ P.at k = .done b := by
  obtain ⟨k, hk, hd⟩ := List.any_eq_true.1 h
  obtain ⟨e, he, hr⟩ := runSet_sound c P entries evs k hk
  exact ⟨e, he, k, hr, by simpa using hd⟩

theorem accepts_sound_ok (c : Cfg) (P : Prog) (entries : List Node) (evs : List Ev)
    (h : accepts c P entries evs .ok = true) :
    ∃ e ∈ entries, ∃ k, Run c P e evs k ∧ P.at k = .done true :=
  accepts_sound_done c P entries evs true h

theorem accepts_sound_err (c : Cfg) (P : Prog) (entries : List Node) (evs : List Ev)
    (h : accepts c P entries evs .err = true) :
    ∃ e ∈ entries, ∃ k, Run c P e evs k ∧ P.at k = .done false :=
  accepts_sound_done c P entries evs false h

theorem accepts_sound_running (c : Cfg) (P : Prog) (entries : List Node) (evs : List Ev)
    (h : accepts c P entries evs .running = true) :
    ∃ e ∈ entries, ∃ k, Run c P e evs k := by
  obtain ⟨k, hk⟩ := List.isEmpty_eq_false_iff_exists_mem.1 (by simpa [accepts, finOk] using h)
  obtain ⟨e, he, hr⟩ := runSet_sound c P entries evs k hk
  exact ⟨e, he, k, hr⟩

/-- A path of `Run` moves along static successors only: each node on it is reachable in the control-flow
graph of the program, which is the graph all certificates (`Lockset`, `Bracket`, ...) are stated over. -/
inductive CFPath (P : Prog) : Node → Node → Prop
  | refl (n) : CFPath P n n
  | step (n m k) : m ∈ (P.at n).succs → CFPath P m k → CFPath P n k

theorem run_cfpath {c : Cfg} {P : Prog} {a k : Node} {evs : List Ev} (h : Run c P a evs k) : CFPath P a k := by
  induction h with
  | nil n => exact CFPath.refl n
  | silent n m k _ hm _ ih => exact CFPath.step n m k (lsuccs_static c _ _ _ hm) ih
  | obs n m k e _ hm _ ih => exact CFPath.step n m k (lsuccs_static c _ _ _ hm) ih

end WS.CIR.Trace
